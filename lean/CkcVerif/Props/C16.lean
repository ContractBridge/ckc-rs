import CkcVerif.Lemmas.TwoBits
import CkcVerif.Props.C14
import CkcVerif.Props.C15
/-!
# C16 — two-card hand from a bit-set: succeeds exactly for two card bits, round-trips
-/
namespace C16
open CK Spec Lemmas C14 C15

/-- fewer than two bits: not enough cards; more than two: too many — for every 64-bit value -/
theorem C16_counts (x : Nat) :
    (pc 64 x < 2 → twoFromBc x = .notEnoughCards) ∧ (pc 64 x > 2 → twoFromBc x = .tooManyCards) := by
  unfold twoFromBc numberOfCards
  constructor
  · intro h
    have : pc 64 x ≤ 1 := by omega
    simp [this]
  · intro h
    have h1 : ¬ pc 64 x ≤ 1 := by omega
    have h2 : ¬ pc 64 x = 2 := by omega
    simp [h1, h2]

/-- what conversion must give for the two-bit value `2^i ||| 2^j`, `j < i < 64` -/
def twoSpec (i j : Nat) : TwoResult :=
  if i < 52 then .ok (deckWords.getD (51 - i) 0) (deckWords.getD (51 - j) 0) else .invalidBinaryFormat

def twoChk : Bool := (List.range 64).all fun i => (List.range i).all fun j =>
  let x := 2 ^ i ||| 2 ^ j
  (twoFromBc x == twoSpec i j) &&
    (match twoFromBc x with
     | .ok a b => bcFromHand [a, b] == x
     | _ => true)

/-- The two peels of `2^i ||| 2^j` return its card bits (those below 52) from the top, then blank
    (`C15_peel_sequence`); both are card bits exactly when `i < 52`, and a blank makes the pair invalid. -/
theorem twoFromBc_pair {i j : Nat} (hji : j < i) (hi : i < 64) :
    twoFromBc (2 ^ i ||| 2 ^ j) = twoSpec i j ∧
    ∀ a b, twoFromBc (2 ^ i ||| 2 ^ j) = .ok a b → bcFromHand [a, b] = 2 ^ i ||| 2 ^ j := by
  have hpc : pc 64 (2 ^ i ||| 2 ^ j) = 2 := by
    rw [pc_eq_length, bits_two_pow_or hji]; simp [hi, Nat.lt_trans hji hi]
  have hp := C15_peel_sequence 2 (2 ^ i ||| 2 ^ j)
  rw [bit_deck_pows.1, filter_pows, List.filter_reverse, bits_two_pow_or hji] at hp
  unfold twoSpec
  by_cases h52 : i < 52
  · have hj : j < 52 := Nat.lt_trans hji h52
    simp [h52, hj, pows] at hp
    obtain ⟨a1, a2⟩ := of_bit h52
    obtain ⟨b1, b2⟩ := of_bit hj
    have hne : deckWords.getD (51 - i) 0 ≠ deckWords.getD (51 - j) 0 := fun e => by
      rw [e, b2] at a2
      exact absurd ((Nat.pow_right_inj (by decide)).mp a2) (by omega)
    rw [twoFromBc_eq hpc hp, a1, b1, isValid_pair ((deck_getD _).mpr ⟨_, by omega, rfl⟩)
      ((deck_getD _).mpr ⟨_, by omega, rfl⟩) hne, if_pos h52, if_pos rfl]
    refine ⟨rfl, fun a b e => ?_⟩
    cases e
    show (0 ||| fromCkc _) ||| fromCkc _ = _
    rw [a2, b2, Nat.zero_or]
  · obtain ⟨b, hb⟩ : ∃ b, (peelIter 2 (2 ^ i ||| 2 ^ j)).1 = [b, 0] := by
      by_cases hj : j < 52 <;> simp [h52, hj, pows] at hp <;> exact ⟨_, hp⟩
    rw [twoFromBc_eq hpc hb, from_bc_zero, isValid_blank, if_neg h52]
    exact ⟨rfl, fun a b e => by cases e⟩

/-- the executable form of `twoFromBc_pair`, over all 2,016 two-bit values -/
theorem C16_two_bits_checked : twoChk = true := by
  simp only [twoChk, List.all_eq_true, List.mem_range, Bool.and_eq_true, beq_iff_eq]
  intro i hi j hji
  obtain ⟨h1, h2⟩ := twoFromBc_pair hji hi
  refine ⟨h1, ?_⟩
  cases h : twoFromBc (2 ^ i ||| 2 ^ j) with
  | ok a b => exact beq_iff_eq.mpr (h2 a b h)
  | _ => rfl

/-- **exactly two bits**: both card bits ⇒ those two cards in deck order (higher bit first), and converting
    the hand back yields the same set; otherwise an invalid binary format — for every 64-bit value -/
theorem C16_two_bits (x : Nat) (hx : x < 2 ^ 64) (h : pc 64 x = 2) :
    ∃ i j, j < i ∧ i < 64 ∧ x = 2 ^ i ||| 2 ^ j ∧ twoFromBc x = twoSpec i j ∧
      (∀ a b, twoFromBc x = .ok a b → bcFromHand [a, b] = x) := by
  obtain ⟨i, j, hji, hi, e⟩ := two_bits x hx h
  obtain ⟨h1, h2⟩ := twoFromBc_pair hji hi
  rw [← e] at h1 h2
  exact ⟨i, j, hji, hi, e, h1, h2⟩

/-- success happens exactly when the set consists of two real card bits -/
theorem C16_success_iff (x : Nat) (hx : x < 2 ^ 64) :
    (∃ a b, twoFromBc x = .ok a b) ↔ (∃ i j, j < i ∧ i < 52 ∧ x = 2 ^ i ||| 2 ^ j) := by
  constructor
  · rintro ⟨a, b, hab⟩
    have hc : pc 64 x = 2 := Decidable.byContradiction fun hne => by
      rcases Nat.lt_or_gt_of_ne hne with h | h
      · rw [(C16_counts x).1 h] at hab; cases hab
      · rw [(C16_counts x).2 h] at hab; cases hab
    obtain ⟨i, j, hji, hi, e, hs, _⟩ := C16_two_bits x hx hc
    refine ⟨i, j, hji, Decidable.byContradiction fun h52 => ?_, e⟩
    rw [hs, twoSpec, if_neg h52] at hab
    cases hab
  · rintro ⟨i, j, hji, hi, e⟩
    rw [e, (twoFromBc_pair hji (by omega)).1, twoSpec, if_pos hi]
    exact ⟨_, _, rfl⟩

example : twoFromBc 3 = .ok 135427 69634 ∧ twoFromBc 1 = .notEnoughCards ∧ twoFromBc 7 = .tooManyCards ∧
    twoFromBc (2 ^ 52 + 1) = .invalidBinaryFormat := by decide +kernel

end C16

#print axioms C16.C16_counts
#print axioms C16.twoFromBc_pair
#print axioms C16.C16_two_bits_checked
#print axioms C16.C16_two_bits
#print axioms C16.C16_success_iff
