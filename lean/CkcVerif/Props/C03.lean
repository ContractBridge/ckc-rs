import CkcVerif.Lemmas.SubHands
import CkcVerif.Props.C01
/-!
# C03 — the reported best hand is a sorted five-card witness drawn from the input
-/
namespace C03
open CK Spec Lemmas

/-- for a five-card input the reported hand is the input unchanged (any five words for which ranking
    returns) -/
theorem C03_five_identity (ws : List Nat) (v : Nat) (h : handRankValue5 packed ws = some v) :
    handRankValueAndHand5 packed ws = some (v, ws) := handRankValueAndHand5_eq h

/-- for six or seven distinct real cards in any order the reported hand `hand`
    * consists of five distinct words, all taken from the input (it is a rearrangement of the words of
      a five-card sub-hand `best` of the input cards),
    * is arranged in descending card order,
    * and ranking it on its own gives exactly the reported value -/
theorem C03_witness {n : Nat} (hn : n = 6 ∨ n = 7) {cs : List Card} (h : IsHand n cs) :
    ∃ v hand best, handRankValueAndHand packed (words cs) = some (v, hand) ∧
      best ∈ combos 5 cs ∧ hand.Perm (words best) ∧
      hand.length = 5 ∧ hand.Nodup ∧ (∀ w ∈ hand, w ∈ words cs) ∧
      hand.Pairwise (fun a b => a ≥ b) ∧
      handRankValue5 packed hand = some v ∧ handRankValueAndHand5 packed hand = some (v, hand) := by
  obtain ⟨best, hb, hv, _⟩ := rank_n hn h
  have hbh := sub_hand h hb
  have hp := sortDesc_perm (words best)
  have hl : (sortDesc (words best)).length = 5 := (sortDesc_length _).trans hbh.length_words
  have hval : handRankValue5 packed (sortDesc (words best)) = some (value5D (words best)) :=
    (handRankValue5_perm packed hl hp).trans (value5D_hand hbh).1
  refine ⟨_, _, best, hv, hb, hp, hl, hp.nodup_iff.mpr (words_nodup best hbh.ok hbh.nodup), fun w hw => ?_,
    sortDesc_sorted _, hval, handRankValueAndHand5_eq hval⟩
  obtain ⟨c, hc, e⟩ := List.mem_map.mp (hp.mem_iff.mp hw)
  exact List.mem_map.mpr ⟨c, ((mem_combos 5 cs best).mp hb).1.subset hc, e⟩

example : handRankValueAndHand packed (words [⟨0, 0⟩, ⟨12, 3⟩, ⟨5, 1⟩, ⟨11, 3⟩, ⟨10, 3⟩, ⟨9, 3⟩, ⟨8, 3⟩]) =
    some (1, words [⟨12, 3⟩, ⟨11, 3⟩, ⟨10, 3⟩, ⟨9, 3⟩, ⟨8, 3⟩]) := by decide +kernel

end C03

#print axioms C03.C03_five_identity
#print axioms C03.C03_witness
