import CkcVerif.Model.Ranker
import CkcVerif.Props.C02
import CkcVerif.Lemmas.KernNames
import CkcVerif.Lemmas.NamesDistinct
import CkcVerif.Lemmas.HandValue
import CkcVerif.Lemmas.Ranking
/-!
# C06 — hand rank name and class describe exactly the poker class of the value
-/
namespace C06
open CK Spec Lemmas

/-- **Invalid for both exactly when the value is 0 or above 7462** — every value (all of `Nat`, in
    particular all 65,536 `u16` values) -/
theorem C06_invalid_iff (v : Nat) :
    (determineName v = Gen.nameInvalid ↔ (v = 0 ∨ v > 7462)) ∧
    (determineClass v = Gen.classInvalid ↔ (v = 0 ∨ v > 7462)) := invalid_iff v

/-- the enumerations have exactly the specified variants, strongest first, `Invalid` last, with
    discriminants 0, 1, 2, … -/
theorem C06_variant_names :
    Gen.nameNames = (down 8 0).map categoryName ++ ["Invalid"] ∧ Gen.nameDiscs = List.range 10 ∧
    Gen.classNames = allDescr.map specName ++ ["Invalid"] ∧ Gen.classDiscs = List.range 310 := by
  decide +kernel

/-- for every value 1..7462 the class variant is the descriptor (category, first and — for full houses and
    two pairs — second tie-break rank) of the hand class with that value, and the name variant its category -/
theorem C06_describes (v : Nat) (h1 : 1 ≤ v) (h2 : v ≤ 7462) :
    let c := classOf v
    Feasible c.1 c.2.1 c.2.2.1 c.2.2.2.1 c.2.2.2.2.1 c.2.2.2.2.2 ∧
    evalAbs c.1 c.2.1 c.2.2.1 c.2.2.2.1 c.2.2.2.2.1 c.2.2.2.2.2 = some v ∧
    allDescr.getD (determineClass v) (0, 0, 0) = descrOfStrength (keyC c) ∧
    determineName v = 8 - keyC c / 13 ^ 5 := by
  obtain ⟨hf, he⟩ := classOf_ok v h1 h2
  obtain ⟨_, n, _, _, d, _⟩ := names_at v h1 h2
  exact ⟨hf, he, d, n⟩

/-- each of the 309 non-Invalid classes is the class of one contiguous, non-empty value range -/
theorem C06_contiguous : contiguousChk = true := contiguousChk_ok

/-- a converted rank passes its own consistency test; the default rank is the conversion of 0 -/
theorem C06_consistent (v : Nat) : (HandRank.ofValue v).isAValidHandRank = true ∧ (HandRank.ofValue v).value = v ∧
    HandRank.default = HandRank.ofValue 0 := by
  refine ⟨?_, rfl, rfl⟩
  unfold HandRank.isAValidHandRank
  simp [HandRank.ofValue]

/-- link to the cards: the rank reported for five distinct real cards (any order) carries the hand's
    value, and its category and class are those of the hand's strength under the rules of poker -/
theorem C06_hand {cs : List Card} (h : IsHand 5 cs) {v : Nat} (e : handRankValue5 packed (words cs) = some v) :
    let r := HandRank.ofValue v
    r.value = v ∧ r.name = 8 - handStrength cs / 13 ^ 5 ∧
    allDescr.getD r.cls (0, 0, 0) = descrOfStrength (handStrength cs) ∧
    Gen.classNames.getD r.cls "" = specName (descrOfStrength (handStrength cs)) ∧
    Gen.nameNames.getD r.name "" = categoryName (handStrength cs / 13 ^ 5) := by
  obtain ⟨v', q1, q2, q3, q4, q5, _, hf, hev, e', a1, a2, hs⟩ := hand_value h
  rw [e] at e'; cases e'
  obtain ⟨_, _, cd, cn⟩ := C06_describes v a1 a2
  have hk : keyC (classOf v) = key q1 q2 q3 q4 q5 (sameSuit cs) := by rw [(classOf_eval hf hev).2.2]; rfl
  obtain ⟨_, _, hlt, _, _, hc⟩ := names_at v a1 a2
  simp only [HandRank.ofValue]
  rw [hs, ← hk]
  refine ⟨trivial, cn, cd, ?_, ?_⟩
  · rw [C06_variant_names.2.2.1]
    have hl := descrIdx_allDescr.1
    rw [List.getD_eq_getElem?_getD, List.getElem?_append_left (by simp [hl]; exact hlt)]
    rw [List.getElem?_map, ← cd, List.getD_eq_getElem?_getD]
    have : determineClass v < allDescr.length := by rw [hl]; exact hlt
    simp [List.getElem?_eq_getElem this]
  · rw [C06_variant_names.1, cn]
    have : ∀ c ≤ 8, ((down 8 0).map categoryName ++ ["Invalid"]).getD (8 - c) "" = categoryName c := by decide
    exact this _ hc

example : (HandRank.ofValue 1).name = 0 ∧ (HandRank.ofValue 1).cls = 0 ∧ Gen.classNames.getD 0 "" = "RoyalFlush" := by
  decide +kernel

/-- the rank reported for five distinct real cards (trait default `hand_rank`, and the validated form)
    carries the hand's value and names the category and class of the hand's own strength -/
theorem C06_hand_rank_five {cs : List Card} (h : IsHand 5 cs) :
    ∃ r, handRank packed (words cs) = some r ∧ handRankValidated packed (words cs) = some r ∧
      handRankValue packed (words cs) = some r.value ∧ r.isInvalid = false ∧
      Gen.nameNames.getD r.name "" = categoryName (handStrength cs / 13 ^ 5) ∧
      Gen.classNames.getD r.cls "" = specName (descrOfStrength (handStrength cs)) := by
  obtain ⟨v, a1, a2, e5, _, e, _, ev, _⟩ := C01.C01_entry_points h
  obtain ⟨_, _, _, hc, hn⟩ := C06_hand h e5
  exact ⟨HandRank.ofValue v, by rw [handRank, e]; rfl, by rw [handRankValidated, ev]; rfl, e,
    isInvalid_valid a1 a2, hn, hc⟩

/-- for six or seven distinct real cards the reported rank names the category and class of the best
    five-card hand they contain -/
theorem C06_hand_rank_six_seven {n : Nat} (hn : n = 6 ∨ n = 7) {cs : List Card} (h : IsHand n cs) :
    ∃ r best, best ∈ combos 5 cs ∧ handRank packed (words cs) = some r ∧
      handRankValidated packed (words cs) = some r ∧ r.isInvalid = false ∧
      (∀ sub ∈ combos 5 cs, handStrength sub ≤ handStrength best) ∧
      Gen.nameNames.getD r.name "" = categoryName (handStrength best / 13 ^ 5) ∧
      Gen.classNames.getD r.cls "" = specName (descrOfStrength (handStrength best)) := by
  obtain ⟨v, best, hb, a1, a2, e, ev, eb, _, hs, _⟩ := C02.C02_best_of hn h
  obtain ⟨_, _, _, hc, hnm⟩ := C06_hand (sub_hand h hb) eb
  exact ⟨HandRank.ofValue v, best, hb, by rw [handRank, e]; rfl, by rw [handRankValidated, ev]; rfl,
    isInvalid_valid a1 a2, hs, hnm, hc⟩

/-- the 309 class names of the specification are pairwise distinct (so a name identifies a class) -/
theorem C06_names_distinct : allDescr.Nodup ∧ (allDescr.map specName).Nodup ∧ allDescr.length = 309 :=
  names_distinct

end C06

#print axioms C06.C06_invalid_iff
#print axioms C06.C06_variant_names
#print axioms C06.C06_describes
#print axioms C06.C06_contiguous
#print axioms C06.C06_consistent
#print axioms C06.C06_hand
#print axioms C06.C06_hand_rank_five
#print axioms C06.C06_hand_rank_six_seven
#print axioms C06.C06_names_distinct
