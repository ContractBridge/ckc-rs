import CkcVerif.Lemmas.HandValue
import CkcVerif.Lemmas.Witness
import CkcVerif.Lemmas.Ranking
import CkcVerif.Lemmas.FindCorrect
import CkcVerif.Lemmas.SpecCensus
import CkcVerif.Lemmas.Entry
/-!
# C01 — the five-card rank value is the hand's exact poker strength ordinal

For **every** list of five distinct real cards (the list order is the slot order, so every slot order
is covered) and all three five-card entry points.  Proof: general lemmas (bridge from words to
ranks, permutation invariance, order embedding) plus kernel evaluation of the 7,462 hand classes
against the regenerated tables (facts A, B, W) and of the specification (fact S).
-/
namespace C01
open CK Spec Lemmas

/-- every five-card entry point returns (never panics) the same value, in 1..7462 -/
theorem C01_entry_points {cs : List Card} (h : IsHand 5 cs) :
    ∃ v, 1 ≤ v ∧ v ≤ 7462 ∧
      handRankValue5 packed (words cs) = some v ∧
      handRankValueAndHand5 packed (words cs) = some (v, words cs) ∧
      handRankValue packed (words cs) = some v ∧
      handRankValueValidated5 packed (words cs) = some v ∧
      handRankValueValidated packed (words cs) = some v ∧
      fiveCards packed (words cs) = some v := by
  obtain ⟨v, _, _, _, _, _, _, _, _, e, a1, a2, _⟩ := hand_value h
  have hl := h.length_words
  have e2 : handRankValue packed (words cs) = some v := (handRankValue_five hl).trans e
  have e3 : handRankValueValidated packed (words cs) = some v :=
    (handRankValueValidated_valid (h.isValid (by omega))).trans e2
  have e4 := handRankValueValidated5_eq (T := packed) hl
  exact ⟨v, a1, a2, e, handRankValueAndHand5_eq e, e2, e4.1.trans e3, e3, e4.2.trans e3⟩

/-- a lower value exactly when the first hand beats the second -/
theorem C01_lower_iff_beats {h1 h2 : List Card} (k1 : IsHand 5 h1) (k2 : IsHand 5 h2) {v1 v2 : Nat}
    (e1 : handRankValue5 packed (words h1) = some v1) (e2 : handRankValue5 packed (words h2) = some v2) :
    v1 < v2 ↔ beats h1 h2 :=
  (value_order k1 k2 e1 e2).1

/-- the same value exactly when the two hands tie -/
theorem C01_equal_iff_ties {h1 h2 : List Card} (k1 : IsHand 5 h1) (k2 : IsHand 5 h2) {v1 v2 : Nat}
    (e1 : handRankValue5 packed (words h1) = some v1) (e2 : handRankValue5 packed (words h2) = some v2) :
    v1 = v2 ↔ ties h1 h2 :=
  (value_order k1 k2 e1 e2).2

/-- the value does not depend on the slot order -/
theorem C01_any_order {h1 h2 : List Card} (k1 : IsHand 5 h1) (p : h1.Perm h2) :
    handRankValue5 packed (words h1) = handRankValue5 packed (words h2) :=
  handRankValue5_perm packed k1.length_words (p.map _)

/-- every value 1..7462 is produced by some hand of five distinct real cards -/
theorem C01_onto (v : Nat) (h1 : 1 ≤ v) (h2 : v ≤ 7462) :
    ∃ cs, IsHand 5 cs ∧ handRankValue5 packed (words cs) = some v := by
  obtain ⟨hf, he⟩ := classOf_ok v h1 h2
  obtain ⟨cs, hcs, e⟩ := class_realised hf
  exact ⟨cs, hcs, e.trans he⟩

/-- the ends of the scale: a royal flush (any suit) is 1, 7-5-4-3-2 unsuited is 7462; nothing is
    stronger than the former or weaker than the latter -/
theorem C01_ends :
    (∀ s < 4, handRankValue5 packed (words [⟨12, s⟩, ⟨11, s⟩, ⟨10, s⟩, ⟨9, s⟩, ⟨8, s⟩]) = some 1) ∧
    handRankValue5 packed (words [⟨5, 0⟩, ⟨3, 1⟩, ⟨2, 2⟩, ⟨1, 3⟩, ⟨0, 3⟩]) = some 7462 := by
  decide +kernel

/-- **the value is a position**: listing the hand classes by value 1, 2, …, 7462 gives a list that is
    strictly decreasing in strength and contains every feasible class — i.e. the list of all poker hand
    classes sorted strongest first — and the class of five distinct real cards stands in it at position
    `value` (counting from 1) -/
theorem C01_position {cs : List Card} (h : IsHand 5 cs) {v : Nat} (e : handRankValue5 packed (words cs) = some v) :
    ranking.length = 7462 ∧ ranking.Pairwise (fun c d => keyC c > keyC d) ∧
    ∃ c, ranking[v - 1]? = some c ∧ keyC c = handStrength cs ∧
      (ranks cs).Perm [c.1, c.2.1, c.2.2.1, c.2.2.2.1, c.2.2.2.2.1] ∧ c.2.2.2.2.2 = sameSuit cs := by
  obtain ⟨v', q1, q2, q3, q4, q5, hp, hf, ev, e', _, _, hs⟩ := hand_value h
  rw [e] at e'; cases e'
  exact ⟨ranking_length, ranking_sorted, _, (ranking_complete hf ev).2.2, hs.symm, hp, rfl⟩

/-- every entry of the ranking is a feasible class (a descending rank tuple realisable by five distinct
    cards), and every feasible class is an entry: the ranking lists the 7,462 classes exactly -/
theorem C01_ranking_exact :
    (∀ c ∈ ranking, Feasible c.1 c.2.1 c.2.2.1 c.2.2.2.1 c.2.2.2.2.1 c.2.2.2.2.2) ∧
    (∀ r1 r2 r3 r4 r5 f, Feasible r1 r2 r3 r4 r5 f → (r1, r2, r3, r4, r5, f) ∈ ranking) := by
  constructor
  · intro c hc
    unfold ranking at hc
    obtain ⟨k, hk, e⟩ := List.mem_map.mp hc
    have := (classOf_ok (k + 1) (by omega) (by have := List.mem_range.mp hk; omega)).1
    rw [e] at this
    exact this
  · intro r1 r2 r3 r4 r5 f hf
    obtain ⟨v, ev, _⟩ := feasible_ok hf
    obtain ⟨_, _, hget⟩ := ranking_complete hf ev
    exact List.mem_of_getElem? hget

/-- consequently the value is one more than the number of hand classes that are strictly stronger -/
theorem C01_count_stronger {cs : List Card} (h : IsHand 5 cs) {v : Nat} (e : handRankValue5 packed (words cs) = some v) :
    v = 1 + (ranking.filter (fun c => decide (keyC c > handStrength cs))).length := by
  obtain ⟨_, hs, c, hget, hk, _⟩ := C01_position h e
  obtain ⟨w, b1, _, e2, _⟩ := C01_entry_points h
  rw [e] at e2; cases e2
  obtain ⟨hi, hc⟩ := List.getElem?_eq_some_iff.mp hget
  have := count_gt_of_sorted keyC ranking hs (v - 1) hi
  rw [hc, hk] at this
  omega

/-- the binary search of the evaluator is functionally correct for every key: it returns the index of a
    product that is in the (strictly increasing) table, so a non-flush hand with repeated ranks gets the
    value stored with its prime product, and 0 only if the product is absent -/
theorem C01_search_correct (i : Nat) (hi : i < 4888) :
    findInProducts packed (get 32 Gen.productsP i) = some i ∧
    notUniqueKey packed (get 32 Gen.productsP i) = packed.values i :=
  ⟨findInProducts_found i hi, (notUniqueKey_spec _).1 i hi rfl⟩

/-- the specification the values are measured against reproduces the textbook census of poker hands:
    per category (high card … straight flush) 1,277 / 2,860 / 858 / 858 / 10 / 1,277 / 156 / 156 / 10 classes
    and 1,302,540 / 1,098,240 / 123,552 / 54,912 / 10,200 / 5,108 / 3,744 / 624 / 40 hands; 7,462 classes and
    C(52,5) = 2,598,960 hands in all (independent of the crate) -/
theorem C01_spec_census : census =
    [(1277, 1302540), (2860, 1098240), (858, 123552), (858, 54912), (10, 10200), (1277, 5108),
     (156, 3744), (156, 624), (10, 40)] ∧
    (census.map (·.1)).foldl (· + ·) 0 = 7462 ∧ (census.map (·.2)).foldl (· + ·) 0 = 2598960 := census_ok

/-- two hands tie only if they have the same ranks and the same flush-ness: strength determines the class -/
theorem C01_strength_determines_class {r1 r2 r3 r4 r5 : Nat} {f : Bool} {q1 q2 q3 q4 q5 : Nat} {g : Bool}
    (hc : Feasible r1 r2 r3 r4 r5 f) (hd : Feasible q1 q2 q3 q4 q5 g)
    (h : strength [r1, r2, r3, r4, r5] f = strength [q1, q2, q3, q4, q5] g) :
    r1 = q1 ∧ r2 = q2 ∧ r3 = q3 ∧ r4 = q4 ∧ r5 = q5 ∧ f = g := by
  rw [strength_eq_key hc, strength_eq_key hd] at h
  exact key_injective hc hd h

/-- non-vacuity: the hypotheses are met by 7♣ 5♦ 4♥ 3♠ 2♠ -/
example : IsHand 5 [⟨5, 0⟩, ⟨3, 1⟩, ⟨2, 2⟩, ⟨1, 3⟩, ⟨0, 3⟩] := ⟨rfl, by decide, by decide⟩

end C01

#print axioms C01.C01_entry_points
#print axioms C01.C01_lower_iff_beats
#print axioms C01.C01_equal_iff_ties
#print axioms C01.C01_any_order
#print axioms C01.C01_onto
#print axioms C01.C01_ends
#print axioms C01.C01_position
#print axioms C01.C01_ranking_exact
#print axioms C01.C01_count_stronger
#print axioms C01.C01_search_correct
#print axioms C01.C01_spec_census
#print axioms C01.C01_strength_determines_class
