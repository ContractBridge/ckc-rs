import CkcVerif.Model.Card
import CkcVerif.Generated.Presets
import CkcVerif.Spec.Layout
import CkcVerif.Spec.Combos
import CkcVerif.Lemmas.Combos
import CkcVerif.Props.C10
/-!
# C18 — deck and published combination tables are complete and duplicate-free

All tables are regenerated from the compiled crate; the statements are kernel evaluations over them,
lifted to "every combination exactly once" by `Lemmas.mem_combos`.
-/
namespace C18
open CK Spec Lemmas

/-- the deck lists spades, hearts, diamonds, clubs, each ace down to deuce -/
theorem C18_deck : Gen.deck = deckWords ∧ Gen.deck.length = 52 ∧ Gen.deck.Nodup ∧ Gen.deckLen = 52 ∧
    Gen.deckSize = 52 :=
  ⟨C10.C10_deck_words, by decide, C10.C10_deck_words ▸ deckWords_facts.1, by decide, by decide⟩

/-- every card occurs exactly once, at its documented position -/
theorem C18_deck_complete : ∀ r < 13, ∀ s < 4, Gen.deck.count (word r s) = 1 ∧
    Gen.deck[(Card.mk r s).deckIndex]? = some (word r s) := by decide +kernel

/-- **indexing at or past the end gives blank, for every index** -/
theorem C18_deck_get (i : Nat) : deckGet i = if i < 52 then deckWords.getD i 0 else 0 := by
  unfold deckGet
  rw [C18_deck.2.2.2.1, C18_deck.1]
  rfl

/-- all unordered pairs of the four suits, higher suit first: (3,2) (3,1) (3,0) (2,1) (2,0) (1,0) -/
def suitPairs : List (Nat × Nat) := (combos 2 [3, 2, 1, 0]).map fun p => (p.getD 0 0, p.getD 1 0)

/-- the six ace pairs: every unordered pair of aces once, higher suit first -/
theorem C18_AA : Gen.presetAA = suitPairs.map (fun p => [word 12 p.1, word 12 p.2]) ∧ Gen.presetAA.Nodup := by
  decide +kernel

/-- all 16 ace-kings (ace first): the four suited ones first (spades..clubs), then the twelve offsuit
    ones by ace suit then king suit, both descending -/
def bigSlick (k : Nat) : List (List Nat) :=
  ([3, 2, 1, 0].map fun s => [word 12 s, word k s]) ++
  ([3, 2, 1, 0].flatMap fun s => ([3, 2, 1, 0].filter (· != s)).map fun t => [word 12 s, word k t])

theorem C18_AK : Gen.presetAK = bigSlick 11 ∧ Gen.presetAK.Nodup ∧ Gen.presetAK.length = 16 := by decide +kernel
theorem C18_AK_split : Gen.presetAKs ++ Gen.presetAKo = Gen.presetAK ∧ Gen.presetAKs.length = 4 ∧
    Gen.presetAKo.length = 12 ∧ (∀ h ∈ Gen.presetAKs, ∃ s < 4, h = [word 12 s, word 11 s]) ∧
    (∀ h ∈ Gen.presetAKo, ∃ s < 4, ∃ t < 4, s ≠ t ∧ h = [word 12 s, word 11 t]) := by decide +kernel
theorem C18_AQ : Gen.presetAQs ++ Gen.presetAQo = bigSlick 10 ∧ Gen.presetAQs.length = 4 ∧
    Gen.presetAQo.length = 12 ∧ (Gen.presetAQs ++ Gen.presetAQo).Nodup := by decide +kernel

/-- every ace-king combination is present: for any ace suit and king suit -/
theorem C18_AK_complete : ∀ s < 4, ∀ t < 4, [word 12 s, word 11 t] ∈ Gen.presetAK ∧
    [word 12 s, word 10 t] ∈ Gen.presetAQs ++ Gen.presetAQo := by decide +kernel

/-- the published slot-index tables are the combinations, in lexicographic order -/
theorem C18_slot_tables : Gen.omaha = combos 2 (List.range 4) ∧ Gen.perms6 = combos 5 (List.range 6) ∧
    Gen.perms7 = combos 5 (List.range 7) := by decide +kernel

/-- hence a row is in the seven-slot table iff it is a strictly increasing 5-tuple of slots 0..6 -/
theorem C18_perms7_mem (row : List Nat) :
    row ∈ Gen.perms7 ↔ row.Sublist (List.range 7) ∧ row.length = 5 := by
  rw [C18_slot_tables.2.2]; exact mem_combos 5 _ row
theorem C18_perms6_mem (row : List Nat) :
    row ∈ Gen.perms6 ↔ row.Sublist (List.range 6) ∧ row.length = 5 := by
  rw [C18_slot_tables.2.1]; exact mem_combos 5 _ row
theorem C18_omaha_mem (row : List Nat) :
    row ∈ Gen.omaha ↔ row.Sublist (List.range 4) ∧ row.length = 2 := by
  rw [C18_slot_tables.1]; exact mem_combos 2 _ row
/-- … each exactly once, with the expected counts 6, 6, 21 -/
theorem C18_slot_tables_nodup : Gen.omaha.Nodup ∧ Gen.perms6.Nodup ∧ Gen.perms7.Nodup ∧
    Gen.omaha.length = 6 ∧ Gen.perms6.length = 6 ∧ Gen.perms7.length = 21 := by decide +kernel

/-- non-vacuity -/
example : [0, 2, 3, 5, 6] ∈ Gen.perms7 := by decide
example : deckGet 0 = 268471337 ∧ deckGet 51 = 69634 ∧ deckGet 52 = 0 ∧ deckGet (2 ^ 64 - 1) = 0 := by decide

end C18

#print axioms C18.C18_deck
#print axioms C18.C18_deck_complete
#print axioms C18.C18_deck_get
#print axioms C18.C18_AA
#print axioms C18.C18_AK
#print axioms C18.C18_AK_split
#print axioms C18.C18_AQ
#print axioms C18.C18_AK_complete
#print axioms C18.C18_slot_tables
#print axioms C18.C18_perms7_mem
#print axioms C18.C18_perms6_mem
#print axioms C18.C18_omaha_mem
#print axioms C18.C18_slot_tables_nodup
