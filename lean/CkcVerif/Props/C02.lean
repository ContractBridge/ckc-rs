import CkcVerif.Lemmas.SubHands
import CkcVerif.Props.C01
/-!
# C02 — six- and seven-card value is the best five-card hand they contain
-/
namespace C02
open CK Spec Lemmas

/-- For six or seven distinct real cards in ANY slot order: ranking (plain and validated) returns the
    value `v` of a five-card sub-hand `best`; no five-card sub-hand has a smaller value; and `best` is
    a sub-hand of greatest strength under the rules of poker (the rule-based reading). -/
theorem C02_best_of {n : Nat} (hn : n = 6 ∨ n = 7) {cs : List Card} (h : IsHand n cs) :
    ∃ v best, best ∈ combos 5 cs ∧ 1 ≤ v ∧ v ≤ 7462 ∧
      handRankValue packed (words cs) = some v ∧ handRankValueValidated packed (words cs) = some v ∧
      handRankValue5 packed (words best) = some v ∧
      (∀ sub ∈ combos 5 cs, ∀ w, handRankValue5 packed (words sub) = some w → v ≤ w) ∧
      (∀ sub ∈ combos 5 cs, handStrength sub ≤ handStrength best) ∧
      bestStrength cs = handStrength best := by
  obtain ⟨best, hb, hv, hmin⟩ := rank_n hn h
  have hbh := sub_hand h hb
  obtain ⟨e, a1, a2⟩ := value5D_hand hbh
  have hval : handRankValue packed (words cs) = some (value5D (words best)) := by
    unfold handRankValue; rw [hv]; rfl
  have hmin' : ∀ sub ∈ combos 5 cs, ∀ w, handRankValue5 packed (words sub) = some w → value5D (words best) ≤ w := by
    intro sub hs w hw
    have := (value5D_hand (sub_hand h hs)).1.symm.trans hw
    cases this
    exact hmin sub hs
  have hstr : ∀ sub ∈ combos 5 cs, handStrength sub ≤ handStrength best := by
    intro sub hs
    have := (value_order (sub_hand h hs) hbh (value5D_hand (sub_hand h hs)).1 e).1
    have := hmin sub hs
    omega
  refine ⟨_, best, hb, a1, a2, hval, ?_, e, hmin', hstr, ?_⟩
  · exact (handRankValueValidated_valid (h.isValid (by omega))).trans hval
  · exact foldl_max_eq _ _ (List.mem_map_of_mem hb)
      (fun x hx => by obtain ⟨s, hs, e⟩ := List.mem_map.mp hx; exact e ▸ hstr s hs)

/-- the value does not depend on the slot order -/
theorem C02_any_order {n : Nat} (hn : n = 6 ∨ n = 7) {cs cs' : List Card} (h : IsHand n cs) (p : cs.Perm cs') :
    handRankValue packed (words cs) = handRankValue packed (words cs') := by
  -- a five-card sub-hand of one list is, up to order, a sub-hand of the other
  have key : ∀ {l l' : List Card}, l.Perm l' → ∀ s ∈ combos 5 l,
      ∃ s' ∈ combos 5 l', handRankValue5 packed (words s') = handRankValue5 packed (words s) := by
    intro l l' pl s hs
    obtain ⟨hsub, hlen⟩ := (mem_combos 5 l s).mp hs
    obtain ⟨s', ps, hsub'⟩ := List.exists_perm_sublist hsub pl
    exact ⟨s', (mem_combos 5 l' s').mpr ⟨hsub', ps.length_eq ▸ hlen⟩,
      handRankValue5_perm packed (by rw [words, List.length_map, ps.length_eq, hlen]) (ps.map _)⟩
  exact value_congr hn h (h.perm p) (key p) (key p.symm)

/-- non-vacuity: seven distinct real cards; the value is that of the royal flush they contain -/
example : IsHand 7 [⟨0, 0⟩, ⟨12, 3⟩, ⟨5, 1⟩, ⟨11, 3⟩, ⟨10, 3⟩, ⟨9, 3⟩, ⟨8, 3⟩] := ⟨rfl, by decide, by decide⟩
example : handRankValue packed (words [⟨0, 0⟩, ⟨12, 3⟩, ⟨5, 1⟩, ⟨11, 3⟩, ⟨10, 3⟩, ⟨9, 3⟩, ⟨8, 3⟩]) = some 1 := by
  decide +kernel

end C02

#print axioms C02.C02_best_of
#print axioms C02.C02_any_order
