import CkcVerif.Lemmas.Total
import CkcVerif.Model.HandRank
import CkcVerif.Model.Legacy
/-!
# C05 — ranking never panics on card-or-blank hands; a blank five is Invalid
  (model of the repaired `find_in_products` / `not_unique`)

`none` is the model's panic (bounds check or arithmetic overflow).  No arithmetic site of the
evaluator can overflow on this domain (`multiply_primes ≤ 63^5 < 2^32`; `high + low ≤ 9774`;
`mid - 1` guarded), so checked and wrapping builds agree; the harness runs both.
-/
namespace C05
open CK Spec Lemmas

/-- the public product search returns an in-range index for **every** key -/
theorem C05_find_total (key : Nat) : ∃ j, findInProducts packed key = some j ∧ j < 4888 :=
  findInProducts_total key

/-- the only multiplication of the evaluator never exceeds `u32` -/
theorem C05_no_overflow (a b c d e : Nat) : multiplyPrimes [a, b, c, d, e] < 2 ^ 32 := by
  unfold multiplyPrimes getRankPrime
  rw [eval_consts.2.2]
  have h : ∀ x : Nat, x &&& 63 ≤ 63 := fun x => Nat.and_le_right
  have ha := h a; have hb := h b; have hc := h c; have hd := h d; have he := h e
  calc (a &&& 63) * (b &&& 63) * (c &&& 63) * (d &&& 63) * (e &&& 63)
      ≤ 63 * 63 * 63 * 63 * 63 :=
        Nat.mul_le_mul (Nat.mul_le_mul (Nat.mul_le_mul (Nat.mul_le_mul ha hb) hc) hd) he
    _ < 2 ^ 32 := by decide

/-- every five-slot entry point returns normally on five card-or-blank slots, with any repetition -/
theorem C05_five_total (ws : List Nat) (hl : ws.length = 5) (h : ∀ w ∈ ws, CardOrBlank w) :
    (handRankValueAndHand5 packed ws).isSome ∧ (handRankValue packed ws).isSome ∧
    (handRankValueValidated5 packed ws).isSome ∧ (handRankValueValidated packed ws).isSome ∧
    (fiveCards packed ws).isSome := by
  obtain ⟨v, hv⟩ := five_total_list hl h
  have e2 : (handRankValue packed ws).isSome := by rw [handRankValue_five hl, hv]; rfl
  have e3 := handRankValueValidated_isSome e2
  have e4 := handRankValueValidated5_eq (T := packed) hl
  exact ⟨by rw [handRankValueAndHand5_eq hv]; rfl, e2, e4.1 ▸ e3, e3, e4.2 ▸ e3⟩

/-- a five-slot hand that contains a blank has value 0, through every entry point -/
theorem C05_blank_five_value (ws : List Nat) (hl : ws.length = 5) (h : ∀ w ∈ ws, CardOrBlank w) (hb : 0 ∈ ws) :
    handRankValue packed ws = some 0 ∧ handRankValueValidated packed ws = some 0 ∧ fiveCards packed ws = some 0 := by
  have e2 : handRankValue packed ws = some 0 := (handRankValue_five hl).trans (five_blank hl h hb)
  have e3 : handRankValueValidated packed ws = some 0 := by
    cases hv : isValid ws with
    | false => exact handRankValueValidated_invalid hv
    | true => exact (handRankValueValidated_valid hv).trans e2
  exact ⟨e2, e3, (handRankValueValidated5_eq hl).2.trans e3⟩

/-- … and its rank is Invalid in name and class -/
theorem C05_blank_five_invalid : (HandRank.ofValue 0).isInvalid = true ∧
    (HandRank.ofValue 0).name = Gen.nameInvalid ∧ (HandRank.ofValue 0).cls = Gen.classInvalid ∧
    HandRank.default = HandRank.ofValue 0 := by decide +kernel

/-- six- and seven-slot ranking returns normally on card-or-blank slots -/
theorem C05_six_total (ws : List Nat) (hl : ws.length = 6) (h : ∀ w ∈ ws, CardOrBlank w) :
    (handRankValueAndHand6 packed ws).isSome ∧ (handRankValue packed ws).isSome ∧
    (handRankValueValidated packed ws).isSome := by
  have e1 : (handRankValueAndHand6 packed ws).isSome := sixseven_total _ ws h (hl ▸ perms_in_range.1)
  have e2 : (handRankValue packed ws).isSome := by rw [handRankValue_six hl, Option.isSome_map]; exact e1
  exact ⟨e1, e2, handRankValueValidated_isSome e2⟩

theorem C05_seven_total (ws : List Nat) (hl : ws.length = 7) (h : ∀ w ∈ ws, CardOrBlank w) :
    (handRankValueAndHand7 packed ws).isSome ∧ (handRankValue packed ws).isSome ∧
    (handRankValueValidated packed ws).isSome := by
  have e1 : (handRankValueAndHand7 packed ws).isSome := sixseven_total _ ws h (hl ▸ perms_in_range.2)
  have e2 : (handRankValue packed ws).isSome := by rw [handRankValue_seven hl, Option.isSome_map]; exact e1
  exact ⟨e1, e2, handRankValueValidated_isSome e2⟩

/-- the code as it was at the pinned commit panics on A♠ K♠ Q♠ J♠ + blank, on the all-blank default and
    on every key below the smallest product -/
theorem C05_legacy_refuted :
    Legacy.handRankValue5 packed [268471337, 134253349, 67144223, 33589533, 0] = none ∧
    Legacy.handRankValue5 packed [0, 0, 0, 0, 0] = none ∧ Legacy.findInProducts packed 47 = none := by
  decide +kernel

example : CardOrBlank 0 ∧ CardOrBlank 268471337 := ⟨Or.inl rfl, Or.inr (by decide)⟩
example : handRankValue packed [268471337, 134253349, 67144223, 33589533, 0] = some 0 := by decide +kernel

end C05

#print axioms C05.C05_find_total
#print axioms C05.C05_no_overflow
#print axioms C05.C05_five_total
#print axioms C05.C05_blank_five_value
#print axioms C05.C05_blank_five_invalid
#print axioms C05.C05_six_total
#print axioms C05.C05_seven_total
#print axioms C05.C05_legacy_refuted
