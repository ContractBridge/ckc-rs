import CkcVerif.Lemmas.Tokens
import CkcVerif.Props.C10
import CkcVerif.Spec.Symbols
import CkcVerif.Spec.Layout
/-!
# C12 — text parsing is total; a token is a card iff it starts with rank+suit symbols

Text is a list of Unicode scalar values.  The model has no panic path (the parsing code contains no
index expression and no arithmetic); "never panics" for the real code is observed by the
correspondence check under `catch_unwind` — this part of the property is partial.
-/
namespace C12
open CK Spec Lemmas

/-- the three character graphs (over all 1,112,064 scalar values) are the documented symbol tables -/
theorem C12_symbol_tables : Gen.rankChars = rankSymbols ∧ Gen.suitChars = suitSymbols ∧
    Gen.whitespace = whiteSpace ∧ Gen.rankBlank = 0 ∧ Gen.suitBlank = 0 := by decide

theorem C12_chars (c : Nat) : rankFromChar c = rankOfChar c ∧ suitFromChar c = suitOfChar c ∧
    isWhitespace c = whiteSpace.contains c := by
  obtain ⟨h1, h2, h3, h4, h5⟩ := C12_symbol_tables
  unfold rankFromChar suitFromChar isWhitespace rankOfChar suitOfChar
  rw [h1, h2, h3, h4, h5]
  exact ⟨rfl, rfl, rfl⟩

/-- what a card token must mean -/
def tokenSpec : List Nat → Nat
  | c1 :: c2 :: _ =>
    if rankOfChar c1 ≠ 0 ∧ suitOfChar c2 ≠ 0 then word (rankOfChar c1 - 2) (suitOfChar c2 - 1) else 0
  | _ => 0

/-- construction on every pair of symbol-table values -/
theorem create_table : ∀ r ∈ 0 :: rankSymbols.map (·.2), ∀ s ∈ 0 :: suitSymbols.map (·.2),
    create r s = if r ≠ 0 ∧ s ≠ 0 then word (r - 2) (s - 1) else 0 := by
  -- the symbols name members of the two enumerations, on which `C10_create` describes `create`
  have hr : ∀ r ∈ 0 :: rankSymbols.map (·.2), r ∈ Gen.cardRanks := by decide
  have hs : ∀ s ∈ 0 :: suitSymbols.map (·.2), s ∈ Gen.cardSuits := by decide
  intro r mr s ms
  rw [C10.C10_create r (hr r mr) s (hs s ms), C10.createSpec]
  simp only [← not_or, ite_not]

theorem lookup_mem_values (l : List (Nat × Nat)) (c : Nat) : (l.lookup c).getD 0 ∈ 0 :: l.map (·.2) :=
  lookup_getD_mem List.mem_cons_self (fun _ hp => List.mem_cons_of_mem _ (List.mem_map_of_mem hp)) c

/-- **a token is a real card exactly when its first character is a rank symbol and its second a suit
    symbol — namely the card of that rank and suit; anything else is blank** (every string) -/
theorem C12_token (s : List Nat) : fromIndex s = tokenSpec s := by
  have blank : create Gen.rankBlank Gen.suitBlank = 0 := by decide
  match s with
  | [] => exact blank
  | [_] => exact blank
  | c1 :: c2 :: _ =>
    show create (rankFromChar c1) (suitFromChar c2) = _
    rw [(C12_chars c1).1, (C12_chars c2).2.1]
    exact create_table _ (lookup_mem_values _ c1) _ (lookup_mem_values _ c2)

/-- a card token yields a real card word or blank, never anything else -/
theorem C12_token_range (s : List Nat) : fromIndex s = 0 ∨ fromIndex s ∈ deckWords := by
  -- every rank symbol names one of the thirteen ranks and every suit symbol one of the four suits
  have hr : ∀ r ∈ 0 :: rankSymbols.map (·.2), r - 2 < 13 := by decide
  have hs : ∀ s ∈ 0 :: suitSymbols.map (·.2), s - 1 < 4 := by decide
  rw [C12_token]
  unfold tokenSpec
  split
  · split
    · exact .inr (word_mem_deck ⟨_, _⟩ ⟨hr _ (lookup_mem_values _ _), hs _ (lookup_mem_values _ _)⟩)
    · exact .inl rfl
  · exact .inl rfl

/-- **parsing a hand fails exactly when the text has fewer whitespace-separated tokens than slots, and
    otherwise fills the slots in token order** -/
theorem C12_hand (n : Nat) (s : List Nat) :
    (parseHand n s = none ↔ (tokens s).length < n) ∧
    (n ≤ (tokens s).length → parseHand n s = some (((tokens s).take n).map tokenSpec)) := by
  rw [parseHand, funext C12_token]
  exact ⟨by split <;> simp [*], fun h => if_neg (Nat.not_lt.mpr h)⟩

/-- tokens are the maximal whitespace-free runs: each is non-empty and has no whitespace; text without
    whitespace is one token -/
theorem C12_tokens (s : List Nat) :
    (∀ t ∈ tokens s, t ≠ [] ∧ ∀ c ∈ t, isWhitespace c = false) ∧
    ((∀ c ∈ s, isWhitespace c = false) → s ≠ [] → tokens s = [s]) :=
  ⟨tokens_spec s, fun h hne => tokens_no_ws s h hne⟩

/-- rendering any of the 52 cards with its rank character and its suit glyph or suit letter parses back
    to the same card -/
theorem C12_round_trip : ∀ w ∈ deckWords,
    fromIndex [getRankChar w, getSuitChar w] = w ∧ fromIndex [getRankChar w, getSuitLetter w] = w ∧
    parseHand 1 [getRankChar w, getSuitLetter w] = some [w] := by decide +kernel

example : fromIndex [0x41, 0x2660] = 268471337 ∧ fromIndex [0x74, 0x63, 0x21] = word 8 0 ∧
    fromIndex [0x31, 0x53] = 0 := by decide +kernel
example : parseHand 2 [0x41, 0x53, 0x20, 0x9, 0x4B, 0x2660] = some [268471337, 134253349] := by decide +kernel
example : parseHand 3 [0x41, 0x53, 0x20, 0x4B, 0x53] = none := by decide +kernel

/-- **tokens are exactly the maximal whitespace-free runs, in order**: splitting at a whitespace character
    splits the token list; the characters of the tokens are the non-whitespace characters of the text.
    With `C12_tokens` (a whitespace-free run is one token) these equations determine `tokens` on every
    string. -/
theorem C12_tokens_split (a : List Nat) (w : Nat) (b : List Nat) (hw : isWhitespace w = true) :
    tokens (a ++ w :: b) = tokens a ++ tokens b ∧ tokens ([] : List Nat) = [] ∧
    (tokens (a ++ w :: b)).flatten = (a ++ w :: b).filter (fun c => !isWhitespace c) :=
  ⟨tokens_append_ws a w b hw, rfl, tokens_flatten _⟩

end C12

#print axioms C12.C12_symbol_tables
#print axioms C12.C12_chars
#print axioms C12.create_table
#print axioms C12.lookup_mem_values
#print axioms C12.C12_token
#print axioms C12.C12_token_range
#print axioms C12.C12_hand
#print axioms C12.C12_tokens
#print axioms C12.C12_round_trip
#print axioms C12.C12_tokens_split
