import CkcVerif.Lemmas.KernNames
import CkcVerif.Model.Legacy
/-!
# C07 — hand ranks form a lawful total order in which stronger hands are greater
  (model of the repaired `Ord for HandRank`)
-/
namespace C07
open CK Spec Lemmas

/-- an explicit integer key: valid ranks above all invalid ones; within each group a lower value is higher -/
def keyOf (v : Nat) : Nat := if v = 0 ∨ v > 7462 then 65535 - v else 65536 + (7462 - v)

/-- **comparison is comparison of the keys**, for all pairs of 16-bit values -/
theorem C07_cmp_is_key_order (a b : Nat) (ha : a < 65536) (hb : b < 65536) :
    (HandRank.ofValue a).cmp (HandRank.ofValue b) = compare (keyOf a) (keyOf b) := by
  rw [cmp_ofValue]
  unfold keyOf
  by_cases pa : a = 0 ∨ a > 7462 <;> by_cases pb : b = 0 ∨ b > 7462 <;>
    simp only [pa, pb, if_true, if_false, iff_self, iff_false, false_iff, not_true_eq_false]
  · exact (compare_rev (by omega)).symm
  · exact (Nat.compare_eq_lt.mpr (by omega)).symm
  · exact (Nat.compare_eq_gt.mpr (by omega)).symm
  · exact (compare_rev (by omega)).symm

/-- the key is injective on 16-bit values -/
theorem C07_key_injective (a b : Nat) (ha : a < 65536) (hb : b < 65536) (h : keyOf a = keyOf b) : a = b := by
  unfold keyOf at h
  by_cases pa : (a = 0 ∨ a > 7462) <;> by_cases pb : (b = 0 ∨ b > 7462) <;>
    simp only [if_pos, if_neg, pa, pb, not_false_eq_true] at h <;> omega

/-- two ranks compare equal only when they are equal -/
theorem C07_equal_iff (a b : Nat) (ha : a < 65536) (hb : b < 65536) :
    (HandRank.ofValue a).cmp (HandRank.ofValue b) = .eq ↔ HandRank.ofValue a = HandRank.ofValue b := by
  rw [C07_cmp_is_key_order a b ha hb, Nat.compare_eq_eq]
  constructor
  · intro h; rw [C07_key_injective a b ha hb h]
  · intro h
    have : a = b := congrArg HandRank.value h
    rw [this]

/-- antisymmetry and transitivity (so sorting is well defined), for all pairs / triples -/
theorem C07_antisymmetric (a b : Nat) (ha : a < 65536) (hb : b < 65536) :
    (HandRank.ofValue a).cmp (HandRank.ofValue b) = ((HandRank.ofValue b).cmp (HandRank.ofValue a)).swap := by
  rw [C07_cmp_is_key_order a b ha hb, C07_cmp_is_key_order b a hb ha]
  exact (Nat.compare_swap _ _).symm

theorem C07_transitive (a b c : Nat) (ha : a < 65536) (hb : b < 65536) (hc : c < 65536)
    (h1 : (HandRank.ofValue a).cmp (HandRank.ofValue b) ≠ .gt)
    (h2 : (HandRank.ofValue b).cmp (HandRank.ofValue c) ≠ .gt) :
    (HandRank.ofValue a).cmp (HandRank.ofValue c) ≠ .gt := by
  rw [C07_cmp_is_key_order a b ha hb, Nat.compare_ne_gt] at h1
  rw [C07_cmp_is_key_order b c hb hc, Nat.compare_ne_gt] at h2
  rw [C07_cmp_is_key_order a c ha hc, Nat.compare_ne_gt]
  omega

/-- a valid rank with a lower value (a stronger hand) compares greater; every invalid rank compares
    below every valid one -/
theorem C07_stronger_is_greater (a b : Nat) (ha : 1 ≤ a ∧ a ≤ 7462) (hb : b < 65536) :
    ((1 ≤ b ∧ b ≤ 7462) → (a < b ↔ (HandRank.ofValue a).cmp (HandRank.ofValue b) = .gt)) ∧
    ((b = 0 ∨ b > 7462) → (HandRank.ofValue a).cmp (HandRank.ofValue b) = .gt ∧
      (HandRank.ofValue b).cmp (HandRank.ofValue a) = .lt) := by
  have pa : ¬ (a = 0 ∨ a > 7462) := by omega
  rw [cmp_ofValue, cmp_ofValue]
  refine ⟨fun hv => ?_, fun pb => ?_⟩
  · have pb : ¬ (b = 0 ∨ b > 7462) := by omega
    simp only [pa, pb, iff_self, if_true, Nat.compare_eq_gt]
  · simp [pa, pb]

/-- the four operators and equality agree with the comparison -/
theorem C07_operators (x y : HandRank) :
    (x.lt y = true ↔ x.cmp y = .lt) ∧ (x.gt y = true ↔ x.cmp y = .gt) ∧
    (x.le y = true ↔ x.cmp y ≠ .gt) ∧ (x.ge y = true ↔ x.cmp y ≠ .lt) := by
  unfold HandRank.lt HandRank.gt HandRank.le HandRank.ge
  cases x.cmp y <;> simp

/-- the derived order of both enumerations is discriminant order (all 10² and 310² pairs), and the
    discriminants are 0, 1, 2, … in declaration order with `Invalid` last -/
def enumOrdChk : Bool :=
  ((List.range 10).all fun i => (List.range 10).all fun j => nameOrd i j == ordCode (compare i j)) &&
  ((List.range 310).all fun i => (List.range 310).all fun j => classOrd i j == ordCode (compare i j)) &&
  (Gen.nameOrdN == 10) && (Gen.classOrdN == 310) && (Gen.nameDiscs == List.range 10) &&
  (Gen.classDiscs == List.range 310) && (Gen.nameInvalid == 9) && (Gen.classInvalid == 309)
theorem C07_enum_order : enumOrdChk = true := by decide +kernel

/-- along v = 1..7462 both discriminants never decrease: sorting by category or class never
    contradicts sorting by strength -/
theorem C07_enums_in_step : contiguousChk = true := contiguousChk_ok

/-- the comparison as it was at the pinned commit called two different ranks equal -/
theorem C07_legacy_refuted :
    Legacy.cmp (HandRank.ofValue 0) (HandRank.ofValue 7463) = .eq ∧ HandRank.ofValue 0 ≠ HandRank.ofValue 7463 := by
  decide +kernel

example : (HandRank.ofValue 0).cmp (HandRank.ofValue 7463) = .gt := by decide +kernel
example : (HandRank.ofValue 1).cmp (HandRank.ofValue 2) = .gt := by decide +kernel

end C07

#print axioms C07.C07_cmp_is_key_order
#print axioms C07.C07_key_injective
#print axioms C07.C07_equal_iff
#print axioms C07.C07_antisymmetric
#print axioms C07.C07_transitive
#print axioms C07.C07_stronger_is_greater
#print axioms C07.C07_operators
#print axioms C07.C07_enum_order
#print axioms C07.C07_enums_in_step
#print axioms C07.C07_legacy_refuted
