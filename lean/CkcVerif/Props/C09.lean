import CkcVerif.Props.C02
import CkcVerif.Props.C01
import CkcVerif.Lemmas.SubHands
/-!
# C09 — more cards never weaken a hand: seven ≤ every six-subset ≤ every five-subset
-/
namespace C09
open CK Spec Lemmas

/-- a six-card hand is no weaker than any five of its cards, and equals the best of them -/
theorem C09_six_vs_five {g : List Card} (h : IsHand 6 g) :
    (∀ f ∈ combos 5 g, valueD g ≤ valueD f) ∧ (∃ f ∈ combos 5 g, valueD g = valueD f) := by
  obtain ⟨⟨b, hb, e⟩, hmin⟩ := rank_min (Or.inl rfl) h
  refine ⟨fun f hf => ?_, ⟨b, hb, ?_⟩⟩
  · rw [value5 (sub_hand h hf)]; exact hmin f hf
  · rw [value5 (sub_hand h hb)]; exact e

/-- a seven-card hand is no weaker than any six of its cards, and equals the best of them -/
theorem C09_seven_vs_six {cs : List Card} (h : IsHand 7 cs) :
    (∀ g ∈ combos 6 cs, valueD cs ≤ valueD g) ∧ (∃ g ∈ combos 6 cs, valueD cs = valueD g) := by
  obtain ⟨⟨b, hb, e⟩, hmin⟩ := rank_min (Or.inr rfl) h
  have le : ∀ g ∈ combos 6 cs, valueD cs ≤ valueD g := by
    intro g hg
    have hg6 := sub_hand h hg
    obtain ⟨⟨f, hf, ef⟩, _⟩ := rank_min (Or.inl rfl) hg6
    rw [ef]
    exact hmin f (combos_sub 5 g cs f ((mem_combos 6 cs g).mp hg).1 hf)
  refine ⟨le, ?_⟩
  -- the best five cards lie inside some six of the seven
  obtain ⟨hsub, hlen⟩ := (mem_combos 5 cs b).mp hb
  obtain ⟨g, h1, h2, h3⟩ := sublist_interp hsub (by rw [hlen, h.len]; omega)
  have hg : g ∈ combos 6 cs := (mem_combos 6 cs g).mpr ⟨h2, by rw [h3, hlen]⟩
  refine ⟨g, hg, ?_⟩
  have hbg : b ∈ combos 5 g := (mem_combos 5 g b).mpr ⟨h1, hlen⟩
  have h6 := (rank_min (Or.inl rfl) (sub_hand h hg)).2 b hbg
  have := le g hg
  omega

/-- the whole chain, for any six of seven and any five of those six -/
theorem C09_chain {cs g f : List Card} (h : IsHand 7 cs) (hg : g ∈ combos 6 cs) (hf : f ∈ combos 5 g) :
    valueD cs ≤ valueD g ∧ valueD g ≤ valueD f :=
  ⟨(C09_seven_vs_six h).1 g hg, (C09_six_vs_five (sub_hand h hg)).1 f hf⟩

example : IsHand 7 [⟨0, 0⟩, ⟨12, 3⟩, ⟨5, 1⟩, ⟨11, 3⟩, ⟨10, 3⟩, ⟨9, 3⟩, ⟨8, 3⟩] := ⟨rfl, by decide, by decide⟩

/-- the whole chain in terms of strength: the best five of the seven cards is at least as strong as the
    best five of any six of them, which is at least as strong as any five of those six -/
theorem C09_strength_chain {cs g f : List Card} (h : IsHand 7 cs) (hg : g ∈ combos 6 cs) (hf : f ∈ combos 5 g) :
    handStrength f ≤ bestStrength g ∧ bestStrength g ≤ bestStrength cs := by
  have hg6 := sub_hand h hg
  obtain ⟨_, b6, hb6, _, _, _, _, _, _, hs6, e6⟩ := C02.C02_best_of (Or.inl rfl) hg6
  obtain ⟨_, b7, hb7, _, _, _, _, _, _, hs7, e7⟩ := C02.C02_best_of (Or.inr rfl) h
  rw [e6, e7]
  refine ⟨hs6 f hf, ?_⟩
  exact hs7 b6 (combos_sub 5 g cs b6 ((mem_combos 6 cs g).mp hg).1 hb6)

/-- the same chain with the values made explicit (no defaulting): all three rankings return, and
    seven ≤ six ≤ five -/
theorem C09_chain_values {cs g f : List Card} (h : IsHand 7 cs) (hg : g ∈ combos 6 cs) (hf : f ∈ combos 5 g) :
    ∃ v7 v6 v5, handRankValue packed (words cs) = some v7 ∧ handRankValue packed (words g) = some v6 ∧
      handRankValue packed (words f) = some v5 ∧ 1 ≤ v7 ∧ v7 ≤ v6 ∧ v6 ≤ v5 ∧ v5 ≤ 7462 := by
  have hg6 := sub_hand h hg
  have hf5 := sub_hand hg6 hf
  obtain ⟨v7, _, _, a7, _, e7, _⟩ := C02.C02_best_of (Or.inr rfl) h
  obtain ⟨v6, _, _, _, _, e6, _⟩ := C02.C02_best_of (Or.inl rfl) hg6
  obtain ⟨v5, _, b5, _, _, e5, _⟩ := C01.C01_entry_points hf5
  obtain ⟨c1, c2⟩ := C09_chain h hg hf
  rw [valueD_eq e7, valueD_eq e6] at c1
  rw [valueD_eq e6, valueD_eq e5] at c2
  exact ⟨v7, v6, v5, e7, e6, e5, a7, c1, c2, b5⟩

end C09

#print axioms C09.C09_six_vs_five
#print axioms C09.C09_seven_vs_six
#print axioms C09.C09_chain
#print axioms C09.C09_strength_chain
#print axioms C09.C09_chain_values
