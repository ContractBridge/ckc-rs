import CkcVerif.Model.Two
import CkcVerif.Spec.Layout
import CkcVerif.Spec.Chen
import CkcVerif.Lemmas.Sweep
/-!
# C17 — starting-hand score equals the Chen formula for every two-card hand
-/
namespace C17
open CK Spec Lemmas

/-- per-card points (doubled) for all 52 cards and blank -/
theorem C17_card_points : (∀ r < 13, ∀ s < 4, (getChenPoints2 (word r s) : Int) = highCardPts2 (r + 2)) ∧
    getChenPoints2 0 = 0 ∧ Gen.chenExact = true := by decide +kernel

def pairOk (r1 s1 r2 s2 : Nat) : Bool :=
  let a := word r1 s1
  let b := word r2 s2
  let hi := max r1 r2 + 2
  let lo := min r1 r2 + 2
  (chenFormula a b == some (chenSpec hi lo (s1 == s2))) &&
  (getGap a b == some (if hi = lo then 0 else hi - lo - 1)) &&
  (isConnector a b == some (decide (hi - lo ≤ 1))) &&
  (isPocketPair a b == (r1 == r2)) && (isSuited a b == (s1 == s2)) &&
  (isSuitedConnector a b == some ((s1 == s2) && decide (hi - lo ≤ 1))) &&
  (highCard a b == max a b) &&
  -- slot order and suit shifting do not matter
  (chenFormula b a == chenFormula a b) &&
  (chenFormula (shiftSuit a) (shiftSuit b) == chenFormula a b)

def chenChk : Bool :=
  (List.range 13).all fun r1 => (List.range 4).all fun s1 => (List.range 13).all fun r2 => (List.range 4).all fun s2 =>
    (r1 == r2 && s1 == s2) || pairOk r1 s1 r2 s2

theorem C17_checked : chenChk = true := by decide +kernel

/-- **for every ordered pair of distinct real cards** the score is Chen's formula of the higher and lower
    rank and suitedness; the helpers follow their definitions; the score ignores slot order and shifting -/
theorem C17_chen (c d : Card) (hc : c.ok) (hd : d.ok) (hne : c ≠ d) :
    pairOk c.rank c.suit d.rank d.suit = true := by
  obtain ⟨r1, s1⟩ := c; obtain ⟨r2, s2⟩ := d
  have h := all_range (all_range (all_range (all_range C17_checked hc.1) hc.2) hd.1) hd.2
  simp only [Bool.or_eq_true, Bool.and_eq_true, beq_iff_eq] at h
  exact h.resolve_left fun ⟨e1, e2⟩ => hne (by rw [e1, e2])

/-- readable corollary: the score itself -/
theorem C17_score (c d : Card) (hc : c.ok) (hd : d.ok) (hne : c ≠ d) :
    chenFormula c.word d.word = some (chenSpec (max c.rank d.rank + 2) (min c.rank d.rank + 2) (c.suit == d.suit)) := by
  have := C17_chen c d hc hd hne
  unfold pairOk at this
  simp only [Bool.and_eq_true, beq_iff_eq] at this
  exact this.1.1.1.1.1.1.1.1

example : chenFormula (word 12 3) (word 11 3) = some 12 := by decide +kernel      -- AKs
example : chenFormula (word 0 3) (word 5 0) = some (-1) := by decide +kernel      -- 72o
example : chenSpec 14 14 false = 20 ∧ chenSpec 2 2 false = 5 ∧ chenSpec 11 10 true = 9 := by decide

end C17

#print axioms C17.C17_card_points
#print axioms C17.C17_checked
#print axioms C17.C17_chen
#print axioms C17.C17_score
