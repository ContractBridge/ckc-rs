import CkcVerif.Lemmas.Bits
import CkcVerif.Lemmas.CardFacts
/-!
# C20 — multiples flags leave card fields intact, strip cleanly, and dominate order
-/
namespace C20
open CK Spec Lemmas

/-- apply the combination of marks `m` (bit 0 = pair, bit 1 = trips, bit 2 = quads) -/
def mark (m w : Nat) : Nat :=
  let w := if m.testBit 0 then flagAsPair w else w
  let w := if m.testBit 1 then flagAsTrips w else w
  if m.testBit 2 then flagAsQuads w else w

/-- the three flags are bits 29, 30, 31 and the strip mask is everything below -/
theorem C20_constants : Gen.pairFlag = 2 ^ 29 ∧ Gen.tripsFlag = 2 ^ 30 ∧ Gen.quadsFlag = 2 ^ 31 ∧
    Gen.multiplesFilter = 2 ^ 29 - 1 := by decide

/-- on every card and every combination of marks: only the top three bits change; rank, suit, prime and
    characters read the same; marking is idempotent; stripping returns the card -/
theorem C20_fields : ∀ w ∈ deckWords, ∀ m < 8,
    let x := mark m w
    x = w ||| (m <<< 29) ∧ x < 2 ^ 32 ∧
    getCardRank x = getCardRank w ∧ getCardSuit x = getCardSuit w ∧ getRankPrime x = getRankPrime w ∧
    getRankChar x = getRankChar w ∧ getSuitChar x = getSuitChar w ∧ getSuitLetter x = getSuitLetter w ∧
    getRankBit x = getRankBit w ∧ getSuitBit x = getSuitBit w ∧
    mark m x = x ∧ stripMultiplesFlags x = w ∧
    (∀ m' < 8, stripMultiplesFlags (mark m' x) = w) := by decide +kernel

/-- every marked word is above every unmarked card; quads above everything without quads; trips
    (without quads) above everything with at most a pair mark — all 52 × 8 × 52 × 8 combinations
    (arithmetic from `C20_fields`: a marked word is the card plus `m * 2^29`, and cards are below 2^29) -/
theorem C20_order : ∀ w ∈ deckWords, ∀ v ∈ deckWords, ∀ m < 8, ∀ m' < 8,
    (0 < m → mark m w > v) ∧
    (m.testBit 2 = true → m'.testBit 2 = false → mark m w > mark m' v) ∧
    (m.testBit 1 = true → m.testBit 2 = false → m' < 2 → mark m w > mark m' v) := by
  intro w hw v hv m hm m' hm'
  have hw' := (deckWords_facts.2 w hw).2
  have hv' := (deckWords_facts.2 v hv).2
  rw [(C20_fields w hw m hm).1, (C20_fields v hv m' hm').1, or_shiftLeft hw', or_shiftLeft hv']
  -- the marks as numbers: quads is `4 ≤ m`, trips is `2 ≤ m % 4`; the rest is linear arithmetic
  have tb : ∀ m < 8, (m.testBit 2 = true ↔ 4 ≤ m) ∧ (m.testBit 1 = true ↔ 2 ≤ m % 4) := by decide
  simp only [← Bool.not_eq_true, (tb m hm).1, (tb m hm).2, (tb m' hm').1]
  omega

/-- the same bit-level facts for an arbitrary word below 2^29 (not only the 52 cards) -/
theorem C20_any_word (w : Nat) (hw : w < 2 ^ 29) (m : Nat) (_hm : m < 8) :
    stripMultiplesFlags (w ||| (m <<< 29)) = w ∧ (0 < m → w ||| (m <<< 29) ≥ 2 ^ 29) := by
  rw [stripMultiplesFlags, C20_constants.2.2.2, or_shiftLeft hw, Nat.and_comm, Nat.and_two_pow_sub_one_eq_mod]
  omega

example : mark 5 268471337 = 268471337 + 2 ^ 29 + 2 ^ 31 := by decide

end C20

#print axioms C20.C20_constants
#print axioms C20.C20_fields
#print axioms C20.C20_order
#print axioms C20.C20_any_word
