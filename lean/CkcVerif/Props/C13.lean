import CkcVerif.Lemmas.HandValue
import CkcVerif.Lemmas.KernCat
/-!
# C13 — flush, straight and wheel predicates agree with the hand's actual category
  (model of the repaired `is_straight`)
-/
namespace C13
open CK Spec Lemmas

/-- flush predicate ⇔ all five share a suit -/
theorem C13_flush {cs : List Card} (h : IsHand 5 cs) : isFlush (words cs) = sameSuit cs := (hand_quantities h).2

/-- straight predicate ⇔ the five ranks are distinct and consecutive, ace allowed low -/
theorem C13_straight {cs : List Card} (h : IsHand 5 cs) : isStraight (words cs) = isStraightRanks (ranks cs) := by
  have e := (isStraightMask_ranks (ranks cs) h.rank_lt).1
  rw [← e, ← (hand_quantities h).1]; rfl

/-- straight-flush predicate ⇔ both -/
theorem C13_straight_flush {cs : List Card} (h : IsHand 5 cs) :
    isStraightFlush (words cs) = (isStraightRanks (ranks cs) && sameSuit cs) := by
  unfold isStraightFlush; rw [C13_straight h, C13_flush h]

/-- wheel predicate ⇔ the ranks are exactly 5-4-3-2-A -/
theorem C13_wheel {cs : List Card} (h : IsHand 5 cs) : isWheel (words cs) = isWheelRanks (ranks cs) := by
  have e := (isStraightMask_ranks (ranks cs) h.rank_lt).2
  rw [← e, ← (hand_quantities h).1]; rfl

/-- the predicates agree with the category of the hand's strength under the rules of poker
    (category digit: 4 straight, 5 flush, 8 straight flush) -/
theorem C13_category {cs : List Card} (h : IsHand 5 cs) :
    let cat := handStrength cs / 13 ^ 5
    isStraight (words cs) = (cat == 4 || cat == 8) ∧ isFlush (words cs) = (cat == 5 || cat == 8) ∧
    isStraightFlush (words cs) = (cat == 8) := by
  obtain ⟨_, q1, q2, q3, q4, q5, hp, hf, _, _, _, _, hs⟩ := hand_value h
  obtain ⟨hc1, hc2⟩ := cat_ok hf
  have e1 : isStraight (words cs) = isStraightMask (orMask5 q1 q2 q3 q4 q5) := by
    rw [orMask5_eq_L, ← orMaskL_perm hp, ← (hand_quantities h).1]; rfl
  have e2 := (hand_quantities h).2
  simp only
  rw [hs]
  generalize key q1 q2 q3 q4 q5 (sameSuit cs) / 13 ^ 5 = cat at hc1 hc2 ⊢
  refine ⟨e1.trans hc1, e2.trans hc2, ?_⟩
  rw [isStraightFlush, e1, e2, hc1, hc2]
  cases h8 : cat == 8 <;> cases h4 : cat == 4 <;> cases h5 : cat == 5 <;> simp_all

/-- the deprecated free functions agree with the methods, for any five words -/
theorem C13_free_functions (a b c d e : Nat) :
    evaluateIsFlush [a, b, c, d, e] = isFlush [a, b, c, d, e] ∧
    evaluateOrRankBits [a, b, c, d, e] = orRankBits [a, b, c, d, e] := ⟨rfl, rfl⟩

/-- the unrepaired predicate (padding test alone) is refuted on the rank mask of 6-5-4-2-2 -/
theorem C13_legacy_refuted :
    (tz32 0b11101 + lz32 0b11101 == 27) = true ∧ isStraightRanks [4, 3, 2, 0, 0] = false ∧
    isStraightMask 0b11101 = false := by decide

example : IsHand 5 [⟨4, 3⟩, ⟨3, 3⟩, ⟨2, 2⟩, ⟨0, 1⟩, ⟨0, 0⟩] := ⟨rfl, by decide, by decide⟩
example : isStraight (words [⟨4, 3⟩, ⟨3, 3⟩, ⟨2, 2⟩, ⟨0, 1⟩, ⟨0, 0⟩]) = false := by decide
example : isStraight (words [⟨12, 3⟩, ⟨3, 3⟩, ⟨2, 2⟩, ⟨1, 1⟩, ⟨0, 0⟩]) = true := by decide

end C13

#print axioms C13.C13_flush
#print axioms C13.C13_straight
#print axioms C13.C13_straight_flush
#print axioms C13.C13_wheel
#print axioms C13.C13_category
#print axioms C13.C13_free_functions
#print axioms C13.C13_legacy_refuted
