import CkcVerif.Props.C02
import CkcVerif.Lemmas.SubHands
import CkcVerif.Lemmas.Entry
/-!
# C08 — suit shifting is a rank-preserving 4-cycle and never changes a hand's value
-/
namespace C08
open CK Spec Lemmas

/-- spades → hearts → diamonds → clubs → spades (suit numbers 3, 2, 1, 0) -/
def nextSuitNo (s : Nat) : Nat := (s + 3) % 4

/-- relabel the suit of a card -/
def relabel (σ : Nat → Nat) (c : Card) : Card := ⟨c.rank, σ c.suit⟩

/-- a consistent relabelling of the four suits -/
structure SuitPerm (σ : Nat → Nat) : Prop where
  lt : ∀ s < 4, σ s < 4
  inj : ∀ s < 4, ∀ t < 4, σ s = σ t → s = t

theorem nextSuit_perm : SuitPerm nextSuitNo := ⟨by decide, by decide⟩

/-- shifting a real card keeps its rank and moves its suit one step down the cycle; blank stays blank;
    four shifts restore every card -/
theorem C08_shift_card : (∀ r < 13, ∀ s < 4, shiftSuit (word r s) = word r (nextSuitNo s)) ∧ shiftSuit 0 = 0 ∧
    (∀ w ∈ 0 :: deckWords, shiftSuit (shiftSuit (shiftSuit (shiftSuit w))) = w) ∧
    (∀ w ∈ deckWords, shiftSuit w ≠ w ∧ shiftSuit (shiftSuit w) ≠ w ∧ shiftSuit (shiftSuit (shiftSuit w)) ≠ w) := by
  decide +kernel

/-- shifting a hand of any size shifts the card in every slot -/
theorem C08_container (ws : List Nat) : shiftSuitHand ws = ws.map shiftSuit ∧ (shiftSuitHand ws).length = ws.length :=
  ⟨rfl, by simp [shiftSuitHand]⟩

theorem shift_words (cs : List Card) (h : ∀ c ∈ cs, c.ok) :
    shiftSuitHand (words cs) = words (cs.map (relabel nextSuitNo)) := by
  unfold shiftSuitHand words
  rw [List.map_map, List.map_map]
  apply List.map_congr_left
  intro c hc
  obtain ⟨r, s⟩ := c
  exact C08_shift_card.1 r (h _ hc).1 s (h _ hc).2

theorem relabel_hand {n : Nat} {σ : Nat → Nat} (hσ : SuitPerm σ) {cs : List Card} (h : IsHand n cs) :
    IsHand n (cs.map (relabel σ)) := by
  refine ⟨by simp [h.len], ?_, ?_⟩
  · rw [List.nodup_iff_pairwise_ne, List.pairwise_map]
    exact (List.nodup_iff_pairwise_ne.mp h.nodup).imp_of_mem (fun {a b} ha hb hne e => by
      obtain ⟨r1, s1⟩ := a; obtain ⟨r2, s2⟩ := b
      simp only [relabel, Card.mk.injEq] at e
      have := hσ.inj s1 (h.ok _ ha).2 s2 (h.ok _ hb).2 e.2
      exact hne (by rw [e.1, this]))
  · intro c hc
    obtain ⟨d, hd, e⟩ := List.mem_map.mp hc
    rw [← e]
    exact ⟨(h.ok d hd).1, hσ.lt _ (h.ok d hd).2⟩

theorem relabel_strength {n : Nat} {σ : Nat → Nat} (hσ : SuitPerm σ) {cs : List Card} (h : IsHand n cs) :
    handStrength (cs.map (relabel σ)) = handStrength cs := by
  have e2 : sameSuit (cs.map (relabel σ)) = sameSuit cs := by
    rw [Bool.eq_iff_iff, sameSuit_iff, sameSuit_iff]
    simp only [List.mem_map, forall_exists_index, and_imp, forall_apply_eq_imp_iff₂]
    exact ⟨fun hh a ha b hb => hσ.inj _ (h.ok a ha).2 _ (h.ok b hb).2 (hh a ha b hb),
      fun hh a ha b hb => congrArg σ (hh a ha b hb)⟩
  rw [handStrength, handStrength, e2, List.map_map]
  rfl

/-- no suit outranks another: any consistent relabelling of the four suits leaves a five-card value
    unchanged — all 24 relabellings, all hands, all slot orders -/
theorem C08_relabel_five {σ : Nat → Nat} (hσ : SuitPerm σ) {cs : List Card} (h : IsHand 5 cs) :
    handRankValue5 packed (words (cs.map (relabel σ))) = handRankValue5 packed (words cs) := by
  have h' := relabel_hand hσ h
  obtain ⟨v, _, _, e, _⟩ := C01.C01_entry_points h
  obtain ⟨w, _, _, e', _⟩ := C01.C01_entry_points h'
  rw [e, e', (C01.C01_equal_iff_ties h' h e' e).mpr (relabel_strength hσ h)]

/-- the same for six and seven cards -/
theorem C08_relabel_six_seven {n : Nat} (hn : n = 6 ∨ n = 7) {σ : Nat → Nat} (hσ : SuitPerm σ)
    {cs : List Card} (h : IsHand n cs) :
    handRankValue packed (words (cs.map (relabel σ))) = handRankValue packed (words cs) := by
  have hc : combos 5 (cs.map (relabel σ)) = (combos 5 cs).map (List.map (relabel σ)) := combos_map _ 5 cs
  refine value_congr hn (relabel_hand hσ h) h (fun s hs => ?_) fun t ht => ?_
  · obtain ⟨t, ht, rfl⟩ := List.mem_map.mp (hc ▸ hs)
    exact ⟨t, ht, (C08_relabel_five hσ (sub_hand h ht)).symm⟩
  · exact ⟨_, hc ▸ List.mem_map_of_mem ht, C08_relabel_five hσ (sub_hand h ht)⟩

/-- in particular shifting never changes the value of a five-, six- or seven-card hand -/
theorem C08_shift_value {n : Nat} (hn : n = 5 ∨ n = 6 ∨ n = 7) {cs : List Card} (h : IsHand n cs) :
    handRankValue packed (shiftSuitHand (words cs)) = handRankValue packed (words cs) := by
  rw [shift_words cs h.ok]
  rcases hn with rfl | hn
  · rw [handRankValue_five (relabel_hand nextSuit_perm h).length_words, handRankValue_five h.length_words]
    exact C08_relabel_five nextSuit_perm h
  · exact C08_relabel_six_seven hn nextSuit_perm h

example : shiftSuit 268471337 = 268454953 := by decide +kernel

end C08

#print axioms C08.C08_shift_card
#print axioms C08.C08_container
#print axioms C08.C08_relabel_five
#print axioms C08.C08_relabel_six_seven
#print axioms C08.C08_shift_value
#print axioms C08.nextSuit_perm
#print axioms C08.shift_words
#print axioms C08.relabel_hand
#print axioms C08.relabel_strength
