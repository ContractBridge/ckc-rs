import CkcVerif.Lemmas.Hands
import CkcVerif.Props.C02
import CkcVerif.Lemmas.Entry
/-!
# C04 — validated ranking yields 0 exactly for non-hands, for any 32-bit words
-/
namespace C04
open CK Spec Lemmas

/-- **valid ⇔ every slot holds one of the 52 card words and no two slots are equal**, for every size
    2..7 and arbitrary 32-bit words -/
theorem C04_valid_iff (ws : List Nat) (hl : 2 ≤ ws.length ∧ ws.length ≤ 7) (hb : ∀ w ∈ ws, w < 2 ^ 32) :
    isValid ws = true ↔ (∀ w ∈ ws, w ∈ deckWords) ∧ ws.Nodup := isValid_iff ws hl hb

/-- the per-slot recogniser on every word (all 2^32 and beyond) -/
theorem C04_slot_recogniser (w : Nat) : (filter w ≠ Gen.blank ↔ w ∈ deckWords) ∧ (filter w = w ∨ filter w = 0) := by
  refine ⟨filter_ne_blank w, ?_⟩
  rw [filter_eq]
  split <;> simp

/-- the parts of validity: uniqueness as written for each size, corruption, blanks -/
theorem C04_parts (ws : List Nat) (hl : 2 ≤ ws.length ∧ ws.length ≤ 7) (hb : ∀ w ∈ ws, w < 2 ^ 32) :
    (areUnique ws = true ↔ ws.Nodup ∧ (6 ≤ ws.length → 0xFFFFFFFF ∉ ws)) ∧
    (isCorrupt ws = false ↔ ∀ w ∈ ws, w ∈ deckWords) ∧ (containBlank ws = true ↔ 0 ∈ ws) :=
  ⟨areUnique_iff ws hl hb, isCorrupt_iff ws, containBlank_iff ws⟩

/-- **validated ranking of five, six or seven arbitrary 32-bit words never panics, is 0 exactly when the
    hand is not valid, and otherwise is the (non-zero) value of unvalidated ranking**; the free
    five-card function is the five-slot validated ranking -/
theorem C04_validated (ws : List Nat) (hl : ws.length = 5 ∨ ws.length = 6 ∨ ws.length = 7)
    (hb : ∀ w ∈ ws, w < 2 ^ 32) :
    ∃ r, handRankValueValidated packed ws = some r ∧ (r = 0 ↔ isValid ws = false) ∧
      (isValid ws = true → handRankValue packed ws = some r ∧ 1 ≤ r ∧ r ≤ 7462) ∧
      (ws.length = 5 → fiveCards packed ws = some r ∧ handRankValueValidated5 packed ws = some r) := by
  have h5 : ws.length = 5 → ∀ r, handRankValueValidated packed ws = some r →
      fiveCards packed ws = some r ∧ handRankValueValidated5 packed ws = some r := fun h5 r e =>
    ⟨(handRankValueValidated5_eq h5).2.trans e, (handRankValueValidated5_eq h5).1.trans e⟩
  cases hv : isValid ws with
  | false =>
    have e := handRankValueValidated_invalid (T := packed) hv
    exact ⟨0, e, by simp, by simp, fun h => h5 h 0 e⟩
  | true =>
    obtain ⟨hm, hnd⟩ := (isValid_iff ws (by omega) hb).mp hv
    obtain ⟨cs, hcs, hw⟩ := valid_is_hand ws hm hnd
    have key : ∃ v, handRankValue packed ws = some v ∧ 1 ≤ v ∧ v ≤ 7462 := by
      rcases hl with h5 | h6 | h7
      · obtain ⟨v, a1, a2, _, _, e, _⟩ := C01.C01_entry_points (h5 ▸ hcs)
        exact ⟨v, hw ▸ e, a1, a2⟩
      · obtain ⟨v, _, _, a1, a2, e, _⟩ := C02.C02_best_of (Or.inl rfl) (h6 ▸ hcs)
        exact ⟨v, hw ▸ e, a1, a2⟩
      · obtain ⟨v, _, _, a1, a2, e, _⟩ := C02.C02_best_of (Or.inr rfl) (h7 ▸ hcs)
        exact ⟨v, hw ▸ e, a1, a2⟩
    obtain ⟨v, e, a1, a2⟩ := key
    have ev := (handRankValueValidated_valid hv).trans e
    exact ⟨v, ev, ⟨fun h0 => by omega, fun h => by cases h⟩, fun _ => ⟨e, a1, a2⟩, fun h => h5 h v ev⟩

example : isValid [268471337, 134253349] = true ∧ isValid [268471337, 268471337] = false ∧
    isValid [268471337, 23] = false := by decide

end C04

#print axioms C04.C04_valid_iff
#print axioms C04.C04_slot_recogniser
#print axioms C04.C04_parts
#print axioms C04.C04_validated
