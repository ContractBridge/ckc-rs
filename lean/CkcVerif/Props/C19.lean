import CkcVerif.Model.Containers
import CkcVerif.Model.SixSeven
import CkcVerif.Lemmas.Best
/-!
# C19 — hand containers store and return exactly the words put into them

The model state is the slot list; the statement is a refinement to the simplest possible spec, a plain
list that receives the same writes.  The theorems pin what each operation means; the substance of
this property is the step-by-step correspondence with the real containers (which setter name writes
which slot), run by the harness.
-/
namespace C19
open CK Lemmas

/-- one setter: the named slot now holds the word, every other slot is unchanged, the size is unchanged -/
theorem C19_setter (ws : List Nat) (k x j : Nat) :
    (applyOp ws (.set k x)).length = ws.length ∧
    (applyOp ws (.set k x))[j]? = if j = k ∧ k < ws.length then some x else ws[j]? := by
  refine ⟨List.length_set, ?_⟩
  rw [applyOp, List.getElem?_set]
  by_cases h : j = k
  · subst h; by_cases hl : j < ws.length <;> simp [hl]
  · simp [h, Ne.symm h]

/-- the last write to slot `j` in a history, if any -/
def lastWrite (ops : List Op) (j : Nat) : Option Nat :=
  ops.foldl (fun acc op => match op with | .set k x => if k = j then some x else acc) none

/-- **any sequence of setters**: the size never changes, and slot `j` holds the last word written to it,
    or its initial word if it was never written — the container equals a plain array that received the
    same writes -/
theorem C19_history (ws : List Nat) (ops : List Op) (j : Nat) (hj : j < ws.length) :
    (runOps ws ops).length = ws.length ∧
    (runOps ws ops)[j]? = some ((lastWrite ops j).getD (ws.getD j 0)) := by
  -- the slots and the last write to slot `j`, folded over the same history, stay related
  refine List.foldl_rel (r := fun (cur : List Nat) (acc : Option Nat) =>
    cur.length = ws.length ∧ cur[j]? = some (acc.getD (ws.getD j 0))) ⟨rfl, by simp [hj]⟩ ?_
  rintro ⟨k, x⟩ _ cur acc ⟨hl, hc⟩
  refine ⟨(C19_setter cur k x j).1.trans hl, (C19_setter cur k x j).2.trans ?_⟩
  by_cases hk : k = j
  · simp [hk, hl, hj]
  · simp [hk, Ne.symm hk, hc]

/-- constructors from parts lay the words out in order -/
theorem C19_constructors (one t1 t2 h1 h2 h3 f1 f2 f3 f4 f5 : Nat) :
    six123 one [t1, t2] [h1, h2, h3] = [one, t1, t2, h1, h2, h3] ∧
    sevenNew [t1, t2] [f1, f2, f3, f4, f5] = [t1, t2, f1, f2, f3, f4, f5] := ⟨rfl, rfl⟩

/-- slot-index selection reads the named slots, for every in-range index 5-tuple (6^5 and 7^5 tuples) -/
theorem C19_selection (ws row : List Nat) (hl : row.length = 5) (hr : ∀ i ∈ row, i < ws.length) :
    pick ws row = some (row.map fun i => ws.getD i 0) := pick_eq_pickD ws row hl hr

example : runOps [1, 2, 3] [.set 2 9, .set 0 7, .set 2 5] = [7, 2, 5] := by decide
example : lastWrite [.set 2 9, .set 0 7, .set 2 5] 2 = some 5 := by decide

end C19

#print axioms C19.C19_setter
#print axioms C19.C19_history
#print axioms C19.C19_constructors
#print axioms C19.C19_selection
