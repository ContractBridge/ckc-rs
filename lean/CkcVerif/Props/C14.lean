import CkcVerif.Model.Card
import CkcVerif.Spec.Layout
import CkcVerif.Lemmas.Lookup
/-!
# C14 — bit-set card form and word form are mutually inverse over the 52 cards
-/
namespace C14
open CK Spec Lemmas

/-- card bit of deck position `i`: bit 51 for the ace of spades down to bit 0 for the deuce of clubs -/
def cardBit (i : Nat) : Nat := 2 ^ (51 - i)

/-- the bit deck and the 52 named bit constants are the card bits in deck order -/
theorem C14_bit_deck : Gen.bitDeck = (List.range 52).map cardBit ∧ Gen.bcConsts = Gen.bitDeck := by decide +kernel

/-- word → bit on the 52 cards, in deck order -/
theorem C14_from_ckc_deck : ∀ i < 52, fromCkc (deckWords.getD i 0) = cardBit i := by decide +kernel

/-- the complete graph of word → bit over all 2^32 words has exactly the 52 card words as support -/
theorem C14_from_ckc_graph : Gen.fromCkcPoints.length = 52 ∧ (∀ p ∈ Gen.fromCkcPoints, p.1 ∈ deckWords) := by
  decide +kernel

/-- **every other word converts to the empty set** (every natural number, in particular all 2^32 words) -/
theorem C14_from_ckc_other (w : Nat) (h : w ∉ deckWords) : fromCkc w = 0 := by
  unfold fromCkc
  rw [lookup_none]; rfl
  intro p hp e
  exact h (e ▸ C14_from_ckc_graph.2 p hp)

/-- bit → word on the 52 card bits -/
theorem C14_from_bc_deck : ∀ i < 52, fromBinaryCard (cardBit i) = deckWords.getD i 0 := by decide +kernel

/-- the dumped points of bit → word: anything with a non-blank image is one of the 52 card bits -/
theorem C14_from_bc_points : ∀ p ∈ Gen.fromBcPoints, p.2 ≠ 0 → ∃ i < 52, p.1 = cardBit i := by decide +kernel

/-- **every 64-bit value (indeed every number) that is not exactly one card bit converts to blank**.
    This is a theorem about the model's shape (exact-match table, default blank); that the crate's
    `from_binary_card` has that shape off the 65 dumped points is what the correspondence samples. -/
theorem C14_from_bc_other (x : Nat) (h : ∀ i < 52, x ≠ cardBit i) : fromBinaryCard x = 0 := by
  unfold fromBinaryCard
  cases hl : Gen.fromBcPoints.lookup x with
  | none => rfl
  | some v =>
    by_cases hv : v = 0
    · simp [hv]
    · obtain ⟨i, hi, e⟩ := C14_from_bc_points (x, v) (mem_of_lookup hl) hv
      exact absurd e (h i hi)

theorem from_bc_zero : fromBinaryCard 0 = 0 := C14_from_bc_other 0 fun _ _ => Nat.ne_of_lt (Nat.two_pow_pos _)

/-- mutually inverse on the 52 cards -/
theorem C14_round_trip : (∀ i < 52, fromBinaryCard (fromCkc (deckWords.getD i 0)) = deckWords.getD i 0) ∧
    (∀ i < 52, fromCkc (fromBinaryCard (cardBit i)) = cardBit i) :=
  ⟨fun i hi => by rw [C14_from_ckc_deck i hi, C14_from_bc_deck i hi],
   fun i hi => by rw [C14_from_bc_deck i hi, C14_from_ckc_deck i hi]⟩

/-- both conversions by bit position: bit `e` belongs to deck position `51 - e` -/
theorem of_bit {e : Nat} (he : e < 52) :
    fromBinaryCard (2 ^ e) = deckWords.getD (51 - e) 0 ∧ fromCkc (deckWords.getD (51 - e) 0) = 2 ^ e := by
  have h1 := C14_from_bc_deck (51 - e) (by omega)
  have h2 := C14_from_ckc_deck (51 - e) (by omega)
  rw [cardBit, show 51 - (51 - e) = e by omega] at h1 h2
  exact ⟨h1, h2⟩

theorem deck_getD (w : Nat) : w ∈ deckWords ↔ ∃ i < 52, deckWords.getD i 0 = w := by
  have hg : ∀ i (hi : i < deckWords.length), deckWords.getD i 0 = deckWords[i] := fun i hi => by
    simp [List.getD_eq_getElem?_getD, List.getElem?_eq_getElem hi]
  rw [List.mem_iff_getElem]
  exact ⟨fun ⟨i, hi, e⟩ => ⟨i, hi, (hg i hi).trans e⟩, fun ⟨i, hi, e⟩ => ⟨i, hi, (hg i hi).symm.trans e⟩⟩

theorem C14_round_trip_card (c : Card) (h : c.ok) :
    fromCkc c.word = cardBit c.deckIndex ∧ fromBinaryCard (fromCkc c.word) = c.word := by
  obtain ⟨r, s⟩ := c
  have : ∀ r < 13, ∀ s < 4, (Card.mk r s).deckIndex < 52 ∧
      deckWords.getD (Card.mk r s).deckIndex 0 = word r s := by decide +kernel
  obtain ⟨hlt, hw⟩ := this r h.1 s h.2
  rw [show (Card.mk r s).word = word r s from rfl, ← hw, C14_from_ckc_deck _ hlt, C14_from_bc_deck _ hlt]
  exact ⟨rfl, rfl⟩

/-- the aggregate constants: all 52 bits, the twelve overflow bits, the thirteen rank groups -/
theorem C14_aggregates : Gen.bcAll = 2 ^ 52 - 1 ∧ Gen.bcOverflow = 2 ^ 64 - 2 ^ 52 ∧ Gen.bcBlank = 0 ∧
    Gen.rankGroups = (List.range 13).map fun k =>
      cardBit k ||| cardBit (13 + k) ||| cardBit (26 + k) ||| cardBit (39 + k) := by decide +kernel

example : fromCkc 268471337 = 2 ^ 51 ∧ fromBinaryCard 1 = 69634 ∧ fromBinaryCard 3 = 0 ∧
    fromBinaryCard (2 ^ 52) = 0 := by decide +kernel

end C14

#print axioms C14.C14_bit_deck
#print axioms C14.C14_from_ckc_deck
#print axioms C14.C14_from_ckc_graph
#print axioms C14.C14_from_ckc_other
#print axioms C14.C14_from_bc_deck
#print axioms C14.C14_from_bc_points
#print axioms C14.C14_from_bc_other
#print axioms C14.from_bc_zero
#print axioms C14.C14_round_trip
#print axioms C14.of_bit
#print axioms C14.deck_getD
#print axioms C14.C14_round_trip_card
#print axioms C14.C14_aggregates
