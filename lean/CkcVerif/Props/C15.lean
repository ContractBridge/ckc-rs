import CkcVerif.Lemmas.Peel
import CkcVerif.Lemmas.Pop
import CkcVerif.Model.Parse
import CkcVerif.Props.C14
/-!
# C15 — card bit-sets behave as sets: union, subset, count, validity, ordered peel

Membership of card `i` (deck position) in a set `x` is `x.testBit (51 - i)`.
-/
namespace C15
open CK Spec Lemmas C14

/-- the image of word → bit: deck position `i` ↦ bit `51 - i`, anything else ↦ no bit -/
theorem from_ckc_bit (w k : Nat) :
    (fromCkc w).testBit k = true ↔ (k < 52 ∧ w = deckWords.getD (51 - k) 0) := by
  constructor
  · intro hb
    have hw : w ∈ deckWords := Decidable.byContradiction fun h => by
      rw [C14_from_ckc_other w h, Nat.zero_testBit] at hb; cases hb
    obtain ⟨i, hi, rfl⟩ := (deck_getD w).mp hw
    rw [C14_from_ckc_deck i hi, cardBit, Nat.testBit_two_pow, decide_eq_true_eq] at hb
    exact ⟨by omega, by rw [← hb, show 51 - (51 - i) = i by omega]⟩
  · rintro ⟨hk, rfl⟩
    rw [(of_bit hk).2, Nat.testBit_two_pow_self]

/-- **a set built from a hand of any size contains exactly the real cards among its slots**:
    card at deck position `i` is a member iff its word occurs in some slot; no other bit is ever set -/
theorem C15_from_hand (ws : List Nat) (k : Nat) :
    (bcFromHand ws).testBit k = true ↔ (k < 52 ∧ deckWords.getD (51 - k) 0 ∈ ws) := by
  unfold bcFromHand
  rw [testBit_foldl_or_map]
  simp only [Nat.zero_testBit, Bool.false_or, List.any_eq_true]
  constructor
  · rintro ⟨w, hw, hb⟩
    obtain ⟨hk, e⟩ := (from_ckc_bit w k).mp hb
    exact ⟨hk, e ▸ hw⟩
  · rintro ⟨hk, hm⟩
    exact ⟨_, hm, (from_ckc_bit _ k).mpr ⟨hk, rfl⟩⟩

/-- the same for a set built from text: the cards named by its tokens -/
theorem C15_from_text (s : List Nat) : bcFromIndex s = bcFromHand ((tokens s).map fromIndex) := by
  unfold bcFromIndex bcFromHand foldIn
  rw [List.foldl_map, bcBlank_zero]

/-- folding in is union -/
theorem C15_fold_in (x y k : Nat) : (foldIn x y).testBit k = (x.testBit k || y.testBit k) := by
  unfold foldIn; rw [Nat.testBit_or]

/-- the membership test is a subset test -/
theorem C15_has (x y : Nat) : has x y = true ↔ ∀ k, y.testBit k = true → x.testBit k = true := has_iff_subset x y

/-- the count is the number of members (bits 0..63 set) -/
theorem C15_count (x : Nat) : numberOfCards x = ((List.range 64).filter (fun k => x.testBit k)).length :=
  pc_eq_length 64 x

/-- a set is valid exactly when it is non-empty and has no bits above the 52 card bits (any 64-bit value) -/
theorem C15_valid (x : Nat) (hx : x < 2 ^ 64) :
    bcIsValid x = true ↔ (x ≠ 0 ∧ ∀ k, 52 ≤ k → x.testBit k = false) := by
  have hov : ∀ k, Gen.bcOverflow.testBit k = (decide (52 ≤ k) && decide (k < 64)) := fun k => by
    rw [show Gen.bcOverflow = (2 ^ 12 - 1) <<< 52 by decide, Nat.testBit_shiftLeft, Nat.testBit_two_pow_sub_one]
    by_cases h : 52 ≤ k <;> simp [h]; omega
  unfold bcIsValid numberOfCards
  rw [bcBlank_zero, Bool.and_eq_true, bne_iff_ne, decide_eq_true_eq, Nat.lt_one_iff, pc_eq_zero_iff]
  refine and_congr_right fun _ => ⟨fun h k hk => ?_, fun h k _ => ?_⟩
  · by_cases h64 : k < 64
    · simpa [Nat.testBit_and, hov, hk, h64] using h k h64
    · exact testBit_of_lt hx (by omega)
  · rw [Nat.testBit_and, hov]
    by_cases hk : 52 ≤ k
    · simp [h k hk]
    · simp [hk]

/-- the bit deck is the list of distinct powers 2^51 … 2^0 -/
theorem bit_deck_pows : Gen.bitDeck = pows ((List.range 52).reverse) ∧ ((List.range 52).reverse).Nodup :=
  ⟨by decide +kernel, (List.reverse_perm _).nodup_iff.mpr List.nodup_range⟩

/-- **peeling removes and returns the highest remaining card in deck order**, or returns blank and leaves
    the set unchanged when no card bit is set -/
theorem C15_peel (x : Nat) :
    ((Gen.bitDeck.filter (fun b => has x b) = []) ∧ peel x = (x, 0)) ∨
    (∃ b m, Gen.bitDeck.filter (fun b => has x b) = b :: m ∧ peel x = (x ^^^ b, b) ∧
        Gen.bitDeck.filter (fun b' => has (x ^^^ b) b') = m) := by
  unfold peel
  rw [bit_deck_pows.1]
  have := peel_step _ bit_deck_pows.2 x
  rw [bcBlank_zero] at this
  exact this

/-- **repeated peeling lists the members in deck order and then returns blank for ever** -/
theorem C15_peel_sequence (k x : Nat) :
    (peelIter k x).1 = ((Gen.bitDeck.filter (fun b => has x b)) ++ List.replicate k 0).take k := by
  unfold peelIter
  rw [bit_deck_pows.1]
  exact peelIter_spec _ bit_deck_pows.2 k x

example : (peelIter 4 0b1011).1 = [8, 2, 1, 0] := by decide +kernel
example : bcFromHand [268471337, 0, 69634, 268471337] = 2 ^ 51 + 1 := by decide +kernel

end C15

#print axioms C15.from_ckc_bit
#print axioms C15.C15_from_hand
#print axioms C15.C15_from_text
#print axioms C15.C15_fold_in
#print axioms C15.C15_has
#print axioms C15.C15_count
#print axioms C15.C15_valid
#print axioms C15.bit_deck_pows
#print axioms C15.C15_peel
#print axioms C15.C15_peel_sequence
