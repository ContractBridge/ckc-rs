import CkcVerif.Lemmas.Sort
import CkcVerif.Lemmas.Sweep
import CkcVerif.Spec.Layout
/-!
# C11 — numeric card order is rank-then-suit; sorting is a descending rearrangement
-/
namespace C11
open CK Spec Lemmas

def orderChk : Bool :=
  (List.range 13).all fun r => (List.range 4).all fun s => (List.range 13).all fun r' => (List.range 4).all fun s' =>
    (decide (word r s < word r' s') == decide (r < r' ∨ (r = r' ∧ s < s'))) && decide (0 < word r s)

theorem C11_order_checked : orderChk = true := by decide +kernel

/-- comparing two real card words as integers compares rank first (ace high) and then suit (spades above
    hearts above diamonds above clubs); blank (0) is below every card — all 52 × 52 pairs -/
theorem C11_card_order (c d : Card) (hc : c.ok) (hd : d.ok) :
    (c.word < d.word ↔ (c.rank < d.rank ∨ (c.rank = d.rank ∧ c.suit < d.suit))) ∧ 0 < c.word := by
  obtain ⟨r, s⟩ := c; obtain ⟨r', s'⟩ := d
  have h := all_range (all_range (all_range (all_range C11_order_checked hc.1) hc.2) hd.1) hd.2
  simp only [Bool.and_eq_true, beq_iff_eq, decide_eq_decide, decide_eq_true_eq] at h
  exact h

/-- sorting a hand of any size holding any words returns the same multiset of words … -/
theorem C11_sort_perm (ws : List Nat) : (sortDesc ws).Perm ws := sortDesc_perm ws
/-- … in non-increasing order … -/
theorem C11_sort_sorted (ws : List Nat) : (sortDesc ws).Pairwise (fun a b => a ≥ b) := sortDesc_sorted ws
/-- … is idempotent, and depends only on the multiset (so the copying form `sort` and the in-place form
    `sort_in_place`, both modelled by `sortDesc`, agree with any correct sort) -/
theorem C11_sort_idempotent (ws : List Nat) : sortDesc (sortDesc ws) = sortDesc ws := sortDesc_idem ws
theorem C11_sort_unique (ws out : List Nat) (hp : out.Perm ws) (hs : out.Pairwise (fun a b => a ≥ b)) :
    out = sortDesc ws :=
  sorted_perm_unique (hp.trans (sortDesc_perm ws).symm) hs (sortDesc_sorted ws)
theorem C11_sort_length (ws : List Nat) : (sortDesc ws).length = ws.length := sortDesc_length ws

example : sortDesc [3, 0xFFFFFFFF, 0, 7, 3] = [0xFFFFFFFF, 7, 3, 3, 0] := by decide

end C11

#print axioms C11.C11_order_checked
#print axioms C11.C11_card_order
#print axioms C11.C11_sort_perm
#print axioms C11.C11_sort_sorted
#print axioms C11.C11_sort_idempotent
#print axioms C11.C11_sort_unique
#print axioms C11.C11_sort_length
