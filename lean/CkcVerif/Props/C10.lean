import CkcVerif.Model.Card
import CkcVerif.Spec.Layout
import CkcVerif.Lemmas.CardFacts
/-!
# C10 — card words follow the documented bit layout; exactly 52 words are cards

Everything here is decided by kernel evaluation over the *regenerated* constants and complete
function graphs (translation + `decide`); nothing hand-modelled is involved except the one-line
mask/shift readers, which the extractor checks against the crate for all 2^32 words
(`Gen.accessorViolations`).
-/
namespace C10
open CK Spec Lemmas

/-- the documented field masks and shifts -/
theorem C10_masks :
    Gen.rankFlagFilter = 0x1FFF0000 ∧ Gen.rankFlagShift = 16 ∧ Gen.rankPrimeFilter = 0x3F ∧
    Gen.suitFilter = 0xF000 ∧ Gen.suitShift = 12 ∧ Gen.suitShortMask = 0xF ∧ Gen.blank = 0 := by decide

/-- each named constant, in the order spades..clubs, ace..deuce, is the layout word -/
theorem C10_named_constants : Gen.cardConsts = deckWords := by decide

/-- the deck produces the same 52 words -/
theorem C10_deck_words : Gen.deck = deckWords := by decide

/-- the 52 layout words are pairwise distinct, non-zero and below 2^29 -/
theorem C10_words_distinct : deckWords.Nodup ∧ ∀ w ∈ deckWords, 0 < w ∧ w < 2 ^ 29 := deckWords_facts

/-- the enumerations have exactly the documented members (discriminants, in iteration order) -/
theorem C10_enums :
    Gen.cardRanks = [14, 13, 12, 11, 10, 9, 8, 7, 6, 5, 4, 3, 2, 0] ∧ Gen.cardSuits = [4, 3, 2, 1, 0] ∧
    Gen.rankBlank = 0 ∧ Gen.suitBlank = 0 := by decide

/-- what construction from a rank and a suit must give: the layout word, blank if either is BLANK -/
def createSpec (rd sd : Nat) : Nat := if rd = 0 ∨ sd = 0 then 0 else word (rd - 2) (sd - 1)

/-- construction: the dumped graph covers all 14 × 5 enumeration pairs, in order, with the layout word -/
theorem C10_create_graph :
    Gen.createGraph = Gen.cardRanks.flatMap fun r => Gen.cardSuits.map fun s => (r, s, createSpec r s) := by
  decide

/-- hence `create` of any proper rank and suit is that card's word, and blank members give blank -/
theorem C10_create : ∀ r ∈ Gen.cardRanks, ∀ s ∈ Gen.cardSuits, create r s = createSpec r s := by decide

theorem C10_create_card (c : Card) (h : c.ok) : create (rankDisc c.rank) (suitDisc c.suit) = c.word := by
  obtain ⟨r, s⟩ := c
  have : ∀ r < 13, ∀ s < 4, create (rankDisc r) (suitDisc s) = word r s := by decide
  exact this r h.1 s h.2

/-- suit signatures: one bit in 12..15, clubs lowest -/
theorem C10_suit_signature :
    Gen.suitSignature = [(4, 1 <<< 15), (3, 1 <<< 14), (2, 1 <<< 13), (1, 1 <<< 12), (0, 0)] := by decide

/-- the filter graph over all 2^32 words is exactly the identity on the 52 layout words -/
theorem C10_filter_graph :
    Gen.filterPoints.length = 52 ∧ (∀ p ∈ Gen.filterPoints, p.1 = p.2 ∧ p.1 ∈ deckWords) ∧
    (∀ w ∈ deckWords, (w, w) ∈ Gen.filterPoints) ∧ (Gen.filterPoints.map (·.1)).Nodup := filter_graph

/-- **of all words the card filter passes exactly the 52 cards and maps every other word to blank**
    (for every natural number, in particular all 2^32 words) -/
theorem C10_filter (w : Nat) : filter w = if w ∈ deckWords then w else 0 := filter_eq w

/-- no accessor departs from its field anywhere in the 2^32 words; blank test is `= 0` -/
theorem C10_accessors_factor : Gen.accessorViolations = [] ∧ Gen.isBlankPoints = [0] := by decide

theorem C10_is_blank (w : Nat) : isBlank w = true ↔ w = 0 := by
  unfold isBlank; rw [C10_accessors_factor.2]; simp

/-- on the 52 cards every accessor reads its field back -/
theorem C10_accessors : ∀ r < 13, ∀ s < 4,
    let w := word r s
    getCardRank w = rankDisc r ∧ getCardSuit w = suitDisc s ∧ getRankPrime w = prime r ∧
    getRankBit w = 1 <<< r ∧ getRankFlag w = 1 <<< (16 + r) ∧
    getSuitBit w = 1 <<< s ∧ getSuitFlag w = 1 <<< (12 + s) ∧
    getRankChar w = rankCharOf r ∧ getSuitChar w = suitGlyphOf s ∧ getSuitLetter w = suitLetterOf s ∧
    (w >>> 8) &&& 0xF = r := by
  decide

theorem C10_card (c : Card) (h : c.ok) :
    getCardRank c.word = rankDisc c.rank ∧ getCardSuit c.word = suitDisc c.suit ∧
    getRankPrime c.word = prime c.rank ∧ getRankBit c.word = 1 <<< c.rank ∧
    getSuitBit c.word = 1 <<< c.suit ∧ getRankChar c.word = rankCharOf c.rank ∧
    getSuitChar c.word = suitGlyphOf c.suit ∧ getSuitLetter c.word = suitLetterOf c.suit ∧
    filter c.word = c.word := by
  obtain ⟨r, s⟩ := c
  have h1 := C10_accessors r h.1 s h.2
  have hm : word r s ∈ deckWords := word_mem_deck ⟨r, s⟩ h
  simp only at h1
  refine ⟨h1.1, h1.2.1, h1.2.2.1, h1.2.2.2.1, h1.2.2.2.2.2.1, h1.2.2.2.2.2.2.2.1,
    h1.2.2.2.2.2.2.2.2.1, h1.2.2.2.2.2.2.2.2.2.1, ?_⟩
  show filter (word r s) = word r s
  rw [C10_filter, if_pos hm]

/-- blank has no rank, no suit, and the placeholder characters -/
theorem C10_blank : getCardRank 0 = 0 ∧ getCardSuit 0 = 0 ∧ getRankChar 0 = 95 ∧ getSuitChar 0 = 95 ∧
    getSuitLetter 0 = 95 ∧ filter 0 = 0 ∧ isBlank 0 = true := by decide

/-- the primes are prime, increasing with rank -/
theorem C10_primes : ∀ r < 13, 2 ≤ prime r ∧ (∀ d < prime r, 2 ≤ d → prime r % d ≠ 0) ∧
    (r + 1 < 13 → prime r < prime (r + 1)) := by decide

/-- non-vacuity: the ace of spades and the deuce of clubs -/
example : (Card.mk 12 3).ok ∧ (Card.mk 12 3).word = 268471337 ∧ (Card.mk 0 0).word = 69634 := by decide

end C10

#print axioms C10.C10_masks
#print axioms C10.C10_named_constants
#print axioms C10.C10_deck_words
#print axioms C10.C10_words_distinct
#print axioms C10.C10_enums
#print axioms C10.C10_create_graph
#print axioms C10.C10_create
#print axioms C10.C10_create_card
#print axioms C10.C10_suit_signature
#print axioms C10.C10_filter_graph
#print axioms C10.C10_filter
#print axioms C10.C10_accessors_factor
#print axioms C10.C10_is_blank
#print axioms C10.C10_accessors
#print axioms C10.C10_card
#print axioms C10.C10_blank
#print axioms C10.C10_primes
