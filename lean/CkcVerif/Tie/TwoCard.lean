import CkcVerif.Tie.Misc
/-!
# Source tie: two-card helpers, `TryFrom<BinaryCard> for Two`, `Deck::get`, `partial_cmp`
-/
namespace Tie
open CK

theorem Two_sort_pair (a b : Nat) : ∃ s1 s2, sortDesc [a, b] = [s1, s2] := by
  simp only [sortDesc, List.foldr, insertDesc]
  split <;> exact ⟨_, _, rfl⟩

theorem Two_get_gap (a b : Nat) : Src.Two.get_gap [a, b] = getGap a b := by
  simp only [Src.Two.get_gap, Two_sort, Option.bind, getGap]
  obtain ⟨s1, s2, h⟩ := Two_sort_pair a b
  rw [h]
  simp only [Src.Two.first, Src.Two.second, List.getD_cons_zero, List.getD_cons_succ, u32_get_card_rank, Src.sub]
  by_cases h1 : getCardRank s1 < getCardRank s2
  · have : ¬ getCardRank s2 ≤ getCardRank s1 := by omega
    simp [h1, this]
  · have h2 : getCardRank s2 ≤ getCardRank s1 := by omega
    simp only [h1, h2, if_true, if_false]
    by_cases h3 : getCardRank s1 - getCardRank s2 < 1
    · simp [h3]
    · have : 1 ≤ getCardRank s1 - getCardRank s2 := by omega
      simp [h3, this]

theorem Two_is_connector (a b : Nat) : Src.Two.is_connector [a, b] = isConnector a b := by
  simp only [Src.Two.is_connector, Two_get_gap, isConnector, Option.map_eq_bind, Function.comp_def]

theorem Two_is_suited_connector (a b : Nat) : Src.Two.is_suited_connector [a, b] = isSuitedConnector a b := by
  simp only [Src.Two.is_suited_connector, Two_is_suited, Two_is_connector, Option.bind_some, Option.bind_fun_some,
    isSuitedConnector]

/-- `impl TryFrom<BinaryCard> for Two` -/
def resultCode : TwoResult → Except Nat (List Nat)
  | .ok a b => .ok [a, b]
  | .notEnoughCards => .error 7
  | .tooManyCards => .error 8
  | .invalidBinaryFormat => .error 3

theorem Two_try_from__2 (x : Nat) : Src.Two.try_from__2 x = some (resultCode (twoFromBc x)) := by
  simp only [Src.Two.try_from__2, u64_number_of_cards, Option.bind_some, twoFromBc, u64_peel, u32_from_binary_card,
    Src.Two.new, Two_is_valid, Nat.zero_le, decide_true, Bool.true_and, decide_eq_true_eq, beq_iff_eq]
  split
  · rfl
  · split
    · split <;> rfl
    · rfl

theorem Deck_get (i : Nat) : Src.Deck.get i = some (deckGet i) := by
  have hd : Src.deck.POKER_DECK = Gen.deck := by decide
  have hl : Src.deck.DECK_SIZE = Gen.deckLen := by decide
  have hlen : Gen.deck.length = Gen.deckLen := by decide
  simp only [Src.Deck.get, Src.Deck.len, Option.bind, deckGet, hd, hl, c_BLANK]
  by_cases h : i < Gen.deckLen
  · have : i < Gen.deck.length := by omega
    simp [h, this]
  · simp [h]

theorem HandRank_partial_cmp (a b : Src.HandRank) :
    Src.HandRank.partial_cmp a b = some (some ((toModel a).cmp (toModel b))) := by
  simp only [Src.HandRank.partial_cmp, HandRank_cmp, Option.bind]

end Tie

/-! ## axiom audit (written by tools/tie.py --audit) -/
#print axioms Tie.Two_sort_pair
#print axioms Tie.Two_get_gap
#print axioms Tie.Two_is_connector
#print axioms Tie.Two_is_suited_connector
#print axioms Tie.Two_try_from__2
#print axioms Tie.Deck_get
#print axioms Tie.HandRank_partial_cmp
