import CkcVerif.Tie.TwoCard
import CkcVerif.Spec.Layout
import CkcVerif.Props.C17
import CkcVerif.Props.C10
/-!
# Source tie: the Chen score (`get_chen_points`, `chen_formula`)

`f32` is translated as exact multiples of 1/256 (see the prelude of `Generated/Src.lean`); the model works in half-points.
`get_chen_points` and `chen_formula` are tied for every word in every slot.
-/
namespace Tie
open CK Spec

/-- the translated point table, as a function of the rank discriminant -/
def chenOfRank (r : Nat) : Option Int :=
  if (r == 14) then some (2560 : Int)
  else if (r == 13) then some (2048 : Int)
  else if (r == 12) then some (1792 : Int)
  else if (r == 11) then some (1536 : Int)
  else if (r == 0) then some (0 : Int)
  else Option.bind (Src.fdiv ((r : Int) * 256) (512 : Int)) fun t3_ => some t3_

theorem chenOfRank_vals : ∀ r ∈ rankVals, chenOfRank r = some (128 * highCardPts2 r) := by decide

/-- the compiled point graph is the specification's high-card table of the compiled rank graph -/
def chenChk : Bool := (List.range 8192).all fun m =>
  highCardPts2 (get 8 Gen.rankFieldRankP m) == (get 8 Gen.rankFieldChen2P m : Int)
theorem chenChk_ok : chenChk = true := by decide +kernel

theorem chen_pts (w : Nat) : highCardPts2 (getCardRank w) = getChenPoints2 w :=
  beq_iff_eq.mp (Lemmas.all_range chenChk_ok (rankIdx_lt w))

theorem u32_get_chen_points (w : Nat) : Src.u32.get_chen_points w = some (128 * (getChenPoints2 w : Int)) := by
  simp only [Src.u32.get_chen_points, u32_get_card_rank, Option.bind]
  exact chen_pts w ▸ chenOfRank_vals _ (getCardRank_mem w)

/-- `ceil` followed by the saturating cast to `i8`, on the fixed-point form of `q` half-points: rounding half up -/
theorem round_eq {x q : Int} (hx : x = 128 * q) (lo : -256 ≤ q) (hi : q ≤ 254) :
    Src.f2i 8 (Src.fceil x) = (q + 1) / 2 := by
  subst hx
  have h : (128 * q + 255) / 256 = (q + 1) / 2 := by omega
  simp only [Src.f2i, Src.fceil, h, Int.mul_tdiv_cancel _ (by decide : (256 : Int) ≠ 0)]
  have : (2 : Int) ^ (8 - 1) = 128 := by decide
  omega

/-- the code after the gap penalty: a point for a small gap below a queen, two for a suited hand, rounding -/
theorem chen_tail (P : Prop) [Decidable P] (s : Bool) {x q : Int} (hx : x = 128 * q) (lo : -20 ≤ q) (hi : q ≤ 40) :
    (if P then
      if s then some (Src.f2i 8 (Src.fceil (x + 256 + 512))) else some (Src.f2i 8 (Src.fceil (x + 256)))
    else
      if s then some (Src.f2i 8 (Src.fceil (x + 512))) else some (Src.f2i 8 (Src.fceil x)))
    = some (((if s then (if P then q + 2 else q) + 4 else (if P then q + 2 else q)) + 1) / 2) := by
  by_cases h : P <;> cases s <;> simp only [h, ↓reduceIte, Bool.false_eq_true] <;>
    exact congrArg some (round_eq (by omega) (by omega) (by omega))

/-- any two words: the translated formula (exact fixed-point arithmetic, `ceil`, saturating cast) gives the model's score,
    including the panic of `get_gap`'s `u8` subtraction where the model has `none`.  The points of a card are at most 10,
    so nothing saturates. -/
theorem Two_chen_formula_any (a b : Nat) : Src.Two.chen_formula [a, b] = chenFormula a b := by
  have hc : (getChenPoints2 (highCard a b) : Int) ≤ 20 :=
    chen_pts _ ▸ (by decide : ∀ r ∈ rankVals, highCardPts2 r ≤ 20) _ (getCardRank_mem _)
  have h0 : 0 ≤ (getChenPoints2 (highCard a b) : Int) := Int.natCast_nonneg _
  simp only [Src.Two.chen_formula, Two_high_card, u32_get_chen_points, Two_is_pocket_pair, Two_is_suited, Two_get_gap,
    u32_get_card_rank, Option.bind_some, chenFormula, Bool.and_eq_true, decide_eq_true_eq, beq_iff_eq]
  generalize (getChenPoints2 (highCard a b) : Int) = c at *
  cases isPocketPair a b
  · cases getGap a b with
    | none => rfl
    | some gap =>
      simp only [Bool.false_eq_true, ↓reduceIte, Option.bind_some]
      match gap with
      | 0 => exact chen_tail _ _ (x := 128 * c - 0) (q := c - 0) (by omega) (by omega) (by omega)
      | 1 => exact chen_tail _ _ (x := 128 * c - 256) (q := c - 2) (by omega) (by omega) (by omega)
      | 2 =>
        simp only [Nat.reduceEqDiff, ↓reduceIte]
        exact chen_tail _ _ (x := 128 * c - 512) (q := c - 4) (by omega) (by omega) (by omega)
      | 3 =>
        simp only [Nat.reduceEqDiff, ↓reduceIte]
        exact chen_tail _ _ (x := 128 * c - 1024) (q := c - 8) (by omega) (by omega) (by omega)
      | n + 4 =>
        simp only [Nat.reduceEqDiff, ↓reduceIte]
        exact chen_tail _ _ (x := 128 * c - 1280) (q := c - 10) (by omega) (by omega) (by omega)
  · have hm : Src.fmul (128 * c) 512 = some (128 * (c * 2)) := by
      have : 128 * c * 512 % 256 = 0 ∧ 128 * c * 512 / 256 = 128 * (c * 2) := by omega
      simp only [Src.fmul, this, ↓reduceIte]
    rw [hm]
    cases isSuited a b
    · refine congrArg some (round_eq (q := max (c * 2) 10) ?_ ?_ ?_) <;> omega
    · refine congrArg some (round_eq (q := max (c * 2) 10 + 4) ?_ ?_ ?_) <;> omega

theorem Two_chen_formula (a b : Nat) (ha : a ∈ deckWords) (hb : b ∈ deckWords) :
    Src.Two.chen_formula [a, b] = chenFormula a b := Two_chen_formula_any a b

/-- C17 for the source: the translated `chen_formula` of any two distinct real cards, in either slot order, is Chen's
    formula of the higher rank, the lower rank and suitedness -/
theorem C17_source (c d : Card) (hc : c.ok) (hd : d.ok) (hne : c ≠ d) :
    Src.Two.chen_formula [c.word, d.word]
      = some (chenSpec (max c.rank d.rank + 2) (min c.rank d.rank + 2) (c.suit == d.suit)) := by
  rw [Two_chen_formula_any]
  exact C17.C17_score c d hc hd hne

end Tie

/-! ## axiom audit (written by tools/tie.py --audit) -/
#print axioms Tie.chenOfRank_vals
#print axioms Tie.chenChk_ok
#print axioms Tie.chen_pts
#print axioms Tie.u32_get_chen_points
#print axioms Tie.round_eq
#print axioms Tie.chen_tail
#print axioms Tie.Two_chen_formula_any
#print axioms Tie.Two_chen_formula
#print axioms Tie.C17_source
