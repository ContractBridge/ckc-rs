import CkcVerif.Tie.Misc
import CkcVerif.Model.Parse
/-!
# Source tie: text entry points (`src/parse.rs`, `from_char`, `from_index`, the `TryFrom<&str>` parsers)

Text is the list of its Unicode scalar values; `str::split_whitespace` and `str::chars` are `core` (modelled, not
verified: `CK.tokens` with the regenerated `char::is_whitespace` graph, and the list itself).
-/
namespace Tie
open CK

theorem CardRank_from_char (c : Nat) : Src.CardRank.from_char c = some (rankFromChar c) := by
  unfold Src.CardRank.from_char rankFromChar
  rw [matchTable_eq _ Gen.rankChars _ (by decide +kernel) (by decide +kernel)]; rfl
theorem CardSuit_from_char (c : Nat) : Src.CardSuit.from_char c = some (suitFromChar c) := by
  unfold Src.CardSuit.from_char suitFromChar
  rw [matchTable_eq _ Gen.suitChars _ (by decide +kernel) (by decide +kernel)]; rfl

theorem c_blanks : Gen.rankBlank = 0 ∧ Gen.suitBlank = 0 := by decide

theorem parse_get_rank_and_suit (s : List Nat) : Src.parse.get_rank_and_suit s = some (getRankAndSuit s) := by
  unfold Src.parse.get_rank_and_suit
  rcases s with _ | ⟨r, _ | ⟨t, rest⟩⟩ <;>
    simp [Src.iterNext, getRankAndSuit, CardRank_from_char, CardSuit_from_char, c_blanks.1, c_blanks.2]

theorem rankFromChar_mem (c : Nat) : rankFromChar c ∈ rankVals :=
  Lemmas.lookup_getD_mem (by decide) (by decide) c
theorem suitFromChar_mem (c : Nat) : suitFromChar c ∈ suitVals :=
  Lemmas.lookup_getD_mem (by decide) (by decide) c

theorem getRankAndSuit_mem (s : List Nat) : (getRankAndSuit s).1 ∈ rankVals ∧ (getRankAndSuit s).2 ∈ suitVals := by
  match s with
  | [] => exact ⟨by decide, by decide⟩
  | [r] => exact ⟨(by decide : Gen.rankBlank ∈ rankVals), (by decide : Gen.suitBlank ∈ suitVals)⟩
  | r :: t :: rest => exact ⟨rankFromChar_mem r, suitFromChar_mem t⟩

theorem u32_from_index (s : List Nat) : Src.u32.from_index s = some (fromIndex s) := by
  simp only [Src.u32.from_index, parse_get_rank_and_suit, Option.bind, fromIndex]
  rw [create_graph _ (getRankAndSuit_mem s).1 _ (getRankAndSuit_mem s).2]

/-- `BinaryCard::from_index`: the translated `for` loop is the fold over the tokens -/
theorem bc_loop : ∀ (ts : List (List Nat)) (bc : Nat),
    (Src.forList (ρ := Empty) ts bc fun bc s => some (Src.Ctl.next (foldIn bc (fromCkc (fromIndex s)))))
    = some (Src.Out.done (ts.foldl (fun bc t => foldIn bc (fromCkc (fromIndex t))) bc)) := by
  intro ts
  induction ts with
  | nil => exact fun _ => rfl
  | cons t ts ih => exact fun bc => ih _

theorem u64_from_index (s : List Nat) : Src.u64.from_index s = some (bcFromIndex s) := by
  simp only [Src.u64.from_index, u32_from_index, u64_from_ckc, u64_fold_in, Option.bind_some, bc_loop, c_bc.1, bcFromIndex]

/-! ### the unrolled `esses.next()?` sequences of the hand parsers -/
theorem iterNext_nil {α : Type} : Src.iterNext ([] : List α) = (none, []) := rfl
theorem iterNext_cons {α : Type} (x : α) (xs : List α) : Src.iterNext (x :: xs) = (some x, xs) := rfl

/-- `parseHand` after the cards `acc` have been read, with `n` more tokens wanted -/
def parseRest (n : Nat) (acc : List Nat) (ts : List (List Nat)) : Option (List Nat) :=
  if ts.length < n then none else some (acc ++ (ts.take n).map fromIndex)

/-- one `esses.next()?` followed by `from_index`, as translated; `k` is the rest of the function, which reads on from
    the advanced iterator -/
theorem next_tok {n : Nat} {acc : List Nat} (ts : List (List Nat)) {k : Nat → Option (Option (List Nat))}
    (hk : ∀ x, k x = some (parseRest n (acc ++ [x]) (Src.iterNext ts).2)) :
    (match Src.iterNext ts with
     | (t, _) =>
       match t with
       | none => some none
       | some v => Option.bind (Src.u32.from_index v) fun x => k x) = some (parseRest (n + 1) acc ts) := by
  cases ts with
  | nil => rfl
  | cons v rest =>
    simp only [iterNext_cons, u32_from_index, Option.bind_some, hk, parseRest, List.length_cons, Nat.add_lt_add_iff_right,
      List.take_succ_cons, List.map_cons, List.append_assoc, List.singleton_append]

theorem Two_from_index (s : List Nat) : Src.Two.from_index s = some (parseHand 2 s) :=
  next_tok (acc := []) _ fun _ => next_tok _ fun _ => rfl
theorem Three_from_index (s : List Nat) : Src.Three.from_index s = some (parseHand 3 s) :=
  next_tok (acc := []) _ fun _ => next_tok _ fun _ => next_tok _ fun _ => rfl
theorem Four_from_index (s : List Nat) : Src.Four.from_index s = some (parseHand 4 s) :=
  next_tok (acc := []) _ fun _ => next_tok _ fun _ => next_tok _ fun _ => next_tok _ fun _ => rfl
theorem Five_from_index (s : List Nat) : Src.Five.from_index s = some (parseHand 5 s) :=
  next_tok (acc := []) _ fun _ => next_tok _ fun _ => next_tok _ fun _ => next_tok _ fun _ => next_tok _ fun _ => rfl
/-- the translation of `parse::five_from_index` is, word for word, that of `Five::from_index` -/
theorem parse_five_from_index (s : List Nat) : Src.parse.five_from_index s = some (parseHand 5 s) := Five_from_index s
theorem Six_from_index (s : List Nat) : Src.Six.from_index s = some (parseHand 6 s) :=
  next_tok (acc := []) _ fun _ => next_tok _ fun _ => next_tok _ fun _ => next_tok _ fun _ => next_tok _ fun _ =>
    next_tok _ fun _ => rfl
theorem Seven_from_index (s : List Nat) : Src.Seven.from_index s = some (parseHand 7 s) :=
  next_tok (acc := []) _ fun _ => next_tok _ fun _ => next_tok _ fun _ => next_tok _ fun _ => next_tok _ fun _ =>
    next_tok _ fun _ => next_tok _ fun _ => rfl

/-! ### `TryFrom<&str>`: `Err(InvalidIndex)` exactly when a token is missing -/
theorem try_from_of {r : Option (Option (List Nat))} {p : Option (List Nat)} (h : r = some p) :
    (Option.bind r fun t1_ =>
      match t1_ with
      | none => some (Except.error 6)
      | some hand => Option.bind (some hand) fun t2_ => some (Except.ok t2_))
      = some (match (generalizing := false) p with | none => (Except.error 6 : Except Nat (List Nat)) | some h => Except.ok h) := by
  subst h; cases p <;> rfl

theorem Two_try_from (s : List Nat) :
    Src.Two.try_from s = some (match parseHand 2 s with | none => Except.error 6 | some h => Except.ok h) :=
  try_from_of (Two_from_index s)
theorem Three_try_from (s : List Nat) :
    Src.Three.try_from s = some (match parseHand 3 s with | none => Except.error 6 | some h => Except.ok h) :=
  try_from_of (Three_from_index s)
theorem Four_try_from (s : List Nat) :
    Src.Four.try_from s = some (match parseHand 4 s with | none => Except.error 6 | some h => Except.ok h) :=
  try_from_of (Four_from_index s)
theorem Five_try_from (s : List Nat) :
    Src.Five.try_from s = some (match parseHand 5 s with | none => Except.error 6 | some h => Except.ok h) :=
  try_from_of (Five_from_index s)
theorem Six_try_from (s : List Nat) :
    Src.Six.try_from s = some (match parseHand 6 s with | none => Except.error 6 | some h => Except.ok h) :=
  try_from_of (Six_from_index s)
theorem Seven_try_from (s : List Nat) :
    Src.Seven.try_from s = some (match parseHand 7 s with | none => Except.error 6 | some h => Except.ok h) :=
  try_from_of (Seven_from_index s)

end Tie

/-! ## axiom audit (written by tools/tie.py --audit) -/
#print axioms Tie.CardRank_from_char
#print axioms Tie.CardSuit_from_char
#print axioms Tie.c_blanks
#print axioms Tie.parse_get_rank_and_suit
#print axioms Tie.rankFromChar_mem
#print axioms Tie.suitFromChar_mem
#print axioms Tie.getRankAndSuit_mem
#print axioms Tie.u32_from_index
#print axioms Tie.bc_loop
#print axioms Tie.u64_from_index
#print axioms Tie.iterNext_nil
#print axioms Tie.iterNext_cons
#print axioms Tie.next_tok
#print axioms Tie.Two_from_index
#print axioms Tie.Three_from_index
#print axioms Tie.Four_from_index
#print axioms Tie.Five_from_index
#print axioms Tie.parse_five_from_index
#print axioms Tie.Six_from_index
#print axioms Tie.Seven_from_index
#print axioms Tie.try_from_of
#print axioms Tie.Two_try_from
#print axioms Tie.Three_try_from
#print axioms Tie.Four_try_from
#print axioms Tie.Five_try_from
#print axioms Tie.Six_try_from
#print axioms Tie.Seven_try_from
