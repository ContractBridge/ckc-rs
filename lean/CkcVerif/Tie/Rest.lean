import CkcVerif.Tie.Card
import CkcVerif.Tie.TwoCard
import CkcVerif.Spec.Layout
/-!
# Source tie: the remaining card-level functions (characters, construction parts, trivial views)
-/
namespace Tie
open CK Spec

theorem rank_char_graph (m : Nat) (h : m < 8192) :
    Src.matchTable [(4096, 65), (2048, 75), (1024, 81), (512, 74), (256, 84), (128, 57), (64, 56), (32, 55), (16, 54), (8, 53), (4, 52), (2, 51), (1, 50)] 95 m
      = get 32 Gen.rankFieldCharP m := matchChk_spec (by decide +kernel) h
theorem u32_get_rank_char (w : Nat) : Src.u32.get_rank_char w = some (getRankChar w) := by
  simp only [Src.u32.get_rank_char, u32_get_rank_bit, Option.bind, getRankChar]
  exact congrArg some (rank_char_graph _ (rankIdx_lt w))

theorem suit_char_graph : ∀ m, m < 16 →
    Src.matchTable [(8, 9824), (4, 9829), (2, 9830), (1, 9827)] 95 m = Gen.suitFieldChar.getD m 0 ∧
    Src.matchTable [(8, 83), (4, 72), (2, 68), (1, 67)] 95 m = Gen.suitFieldLetter.getD m 0 := by decide
theorem u32_get_suit_char (w : Nat) : Src.u32.get_suit_char w = some (getSuitChar w) := by
  simp only [Src.u32.get_suit_char, u32_get_suit_bit, Option.bind, getSuitChar]
  exact congrArg some (suit_char_graph _ (suitIdx_lt w)).1
theorem u32_get_suit_letter (w : Nat) : Src.u32.get_suit_letter w = some (getSuitLetter w) := by
  simp only [Src.u32.get_suit_letter, u32_get_suit_bit, Option.bind, getSuitLetter]
  exact congrArg some (suit_char_graph _ (suitIdx_lt w)).2

/-- `CKCNumber::create` on every pair of enumeration members -/
theorem u32_create : ∀ r ∈ rankVals, ∀ s ∈ suitVals, Src.u32.create r s = some (create r s) := create_graph

/-- the parts `create` ORs together, on the thirteen proper ranks and four proper suits: the documented layout -/
theorem CardRank_number : ∀ r < 13, Src.CardRank.number (rankDisc r) = some r := by decide
theorem CardRank_bits : ∀ r < 13, Src.CardRank.bits (rankDisc r) = some (1 <<< (16 + r)) := by decide
theorem CardRank_prime : ∀ r < 13, Src.CardRank.prime (rankDisc r) = some (prime r) := by decide
theorem CardRank_shift8 : ∀ r < 13, Src.CardRank.shift8 (rankDisc r) = some (r <<< 8) := by decide
theorem CardSuit_binary_signature : ∀ s < 4, Src.CardSuit.binary_signature (suitDisc s) = some (1 <<< (12 + s)) := by decide

theorem u32_as_u32 (w : Nat) : Src.u32.as_u32 w = some w := rfl
theorem u64_as_u64 (x : Nat) : Src.u64.as_u64 x = some x := rfl
theorem Two_from__2 (ws : List Nat) : Src.Two.from__2 ws = some ws := rfl
theorem Deck_arr (ws : List Nat) : Src.Deck.arr ws = some ws := rfl
theorem Deck_len : Src.Deck.len = some Gen.deckLen := by decide

end Tie

/-! ## axiom audit (written by tools/tie.py --audit) -/
#print axioms Tie.rank_char_graph
#print axioms Tie.u32_get_rank_char
#print axioms Tie.suit_char_graph
#print axioms Tie.u32_get_suit_char
#print axioms Tie.u32_get_suit_letter
#print axioms Tie.u32_create
#print axioms Tie.CardRank_number
#print axioms Tie.CardRank_bits
#print axioms Tie.CardRank_prime
#print axioms Tie.CardRank_shift8
#print axioms Tie.CardSuit_binary_signature
#print axioms Tie.u32_as_u32
#print axioms Tie.u64_as_u64
#print axioms Tie.Two_from__2
#print axioms Tie.Deck_arr
#print axioms Tie.Deck_len
