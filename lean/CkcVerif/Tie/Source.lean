import CkcVerif.Tie.SixSeven
import CkcVerif.Tie.Text
import CkcVerif.Tie.TwoCard
import CkcVerif.Props.C01
import CkcVerif.Props.C02
import CkcVerif.Props.C04
import CkcVerif.Props.C05
import CkcVerif.Props.C12
/-!
# The properties, stated about the translated source

Each theorem here is a property theorem of `Props/` transported along the source tie: it speaks about the Lean
definitions that `tools/rs2lean.py` writes from the *current text* of the crate's functions (`Src.*`, loop fuel 14 =
the bound proved sufficient for the binary search), not about the hand-written model.
-/
namespace Tie
open CK Spec

/-- C01 for the source: every five-card entry point returns the strength ordinal, in any slot order -/
theorem C01_source {cs : List Card} (h : IsHand 5 cs) :
    ∃ v, 1 ≤ v ∧ v ≤ 7462 ∧
      Src.Five.hand_rank_value 14 (words cs) = some v ∧
      Src.Five.hand_rank_value_and_hand 14 (words cs) = some (v, words cs) ∧
      Src.Five.hand_rank_value_validated 14 (words cs) = some v ∧
      Src.evaluate.five_cards 14 (words cs) = some v ∧
      (∀ cs' : List Card, IsHand 5 cs' → ∀ v', Src.Five.hand_rank_value 14 (words cs') = some v' →
        ((v < v' ↔ beats cs cs') ∧ (v = v' ↔ ties cs cs'))) := by
  obtain ⟨v, h1, h2, e1, e2, _, e4, _, e6⟩ := C01.C01_entry_points h
  obtain ⟨c1, c2, c3, c4, c5, rfl⟩ := Lemmas.hand5_cases h
  refine ⟨v, h1, h2, ?_, ?_, ?_, ?_, ?_⟩
  · exact (Five_hand_rank_value _ _ _ _ _).trans e1
  · exact (Five_hand_rank_value_and_hand _ _ _ _ _).trans e2
  · exact (Five_hand_rank_value_validated _ _ _ _ _).trans e4
  · exact (evaluate_five_cards _ _ _ _ _).trans e6
  · intro cs' h' v' ev'
    obtain ⟨d1, d2, d3, d4, d5, rfl⟩ := Lemmas.hand5_cases h'
    have ev'' : handRankValue5 packed (words [d1, d2, d3, d4, d5]) = some v' :=
      (Five_hand_rank_value _ _ _ _ _).symm.trans ev'
    exact ⟨C01.C01_lower_iff_beats h h' e1 ev'', C01.C01_equal_iff_ties h h' e1 ev''⟩

/-- the translated ranking entry point for a slot list of length 5, 6 or 7 -/
def srcValue (ws : List Nat) : Option Nat :=
  match ws.length with
  | 5 => Src.Five.hand_rank_value 14 ws
  | 6 => Src.Six.hand_rank_value 14 ws
  | 7 => Src.Seven.hand_rank_value 14 ws
  | _ => none
def srcValidated (ws : List Nat) : Option Nat :=
  match ws.length with
  | 5 => Src.Five.hand_rank_value_validated 14 ws
  | 6 => Src.Six.hand_rank_value_validated 14 ws
  | 7 => Src.Seven.hand_rank_value_validated 14 ws
  | _ => none

theorem srcValue_eq (ws : List Nat) (hl : ws.length = 5 ∨ ws.length = 6 ∨ ws.length = 7) :
    srcValue ws = handRankValue packed ws ∧ srcValidated ws = handRankValueValidated packed ws := by
  rcases hl with hl | hl | hl
  · match ws, hl with
    | [a, b, c, d, e], _ =>
      exact ⟨(Five_hand_rank_value ..).trans (Lemmas.handRankValue_five rfl).symm,
        (Five_hand_rank_value_validated ..).trans (Lemmas.handRankValueValidated5_eq rfl).1⟩
  · match ws, hl with
    | [a, b, c, d, e, f], _ => exact ⟨Six_hand_rank_value .., Six_hand_rank_value_validated ..⟩
  · match ws, hl with
    | [a, b, c, d, e, f, g], _ => exact ⟨Seven_hand_rank_value .., Seven_hand_rank_value_validated ..⟩

/-- C02 for the source: six / seven cards rank as the best five-card hand they contain -/
theorem C02_source {n : Nat} (hn : n = 6 ∨ n = 7) {cs : List Card} (h : IsHand n cs) :
    ∃ v best, best ∈ combos 5 cs ∧ 1 ≤ v ∧ v ≤ 7462 ∧
      srcValue (words cs) = some v ∧ srcValidated (words cs) = some v ∧
      (∀ sub ∈ combos 5 cs, handStrength sub ≤ handStrength best) ∧ bestStrength cs = handStrength best ∧
      handRankValue5 packed (words best) = some v := by
  obtain ⟨v, best, hb, h1, h2, e1, e2, e3, _, m, bs⟩ := C02.C02_best_of hn h
  obtain ⟨q1, q2⟩ := srcValue_eq (words cs) (by have := h.length_words; omega)
  exact ⟨v, best, hb, h1, h2, q1.trans e1, q2.trans e2, m, bs, e3⟩

/-- C04 for the source: validated ranking of arbitrary 32-bit words is 0 exactly for non-hands, never panics -/
theorem C04_source (ws : List Nat) (hl : ws.length = 5 ∨ ws.length = 6 ∨ ws.length = 7) (hb : ∀ w ∈ ws, w < 2 ^ 32) :
    ∃ r, srcValidated ws = some r ∧ (r = 0 ↔ isValid ws = false) ∧
      (isValid ws = true → srcValue ws = some r ∧ 1 ≤ r ∧ r ≤ 7462) ∧
      (isValid ws = true ↔ (∀ w ∈ ws, w ∈ deckWords) ∧ ws.Nodup) := by
  obtain ⟨r, e, z, v, _⟩ := C04.C04_validated ws hl hb
  obtain ⟨q1, q2⟩ := srcValue_eq ws hl
  refine ⟨r, q2.trans e, z, ?_, C04.C04_valid_iff ws (by omega) hb⟩
  intro hv
  obtain ⟨a, b, c⟩ := v hv
  exact ⟨q1.trans a, b, c⟩

/-- C05 for the source: ranking card-or-blank slots never panics (no index out of bounds, no underflow, fuel 14 suffices) -/
theorem C05_source (ws : List Nat) (hl : ws.length = 5 ∨ ws.length = 6 ∨ ws.length = 7) (h : ∀ w ∈ ws, Lemmas.CardOrBlank w) :
    (srcValue ws).isSome ∧ (srcValidated ws).isSome := by
  obtain ⟨q1, q2⟩ := srcValue_eq ws hl
  rw [q1, q2]
  rcases hl with hl | hl | hl
  · obtain ⟨_, a, _, b, _⟩ := C05.C05_five_total ws hl h; exact ⟨a, b⟩
  · obtain ⟨_, a, b⟩ := C05.C05_six_total ws hl h; exact ⟨a, b⟩
  · obtain ⟨_, a, b⟩ := C05.C05_seven_total ws hl h; exact ⟨a, b⟩

/-- C12 for the source: a token is a card exactly when it starts with a rank symbol and a suit symbol; the hand parsers
    fail exactly when a token is missing and otherwise return the first tokens' cards in order -/
theorem C12_source (s : List Nat) :
    Src.u32.from_index s = some (C12.tokenSpec s) ∧
    (∀ r, Src.Five.try_from s = some r → ((∃ e, r = Except.error e) ↔ (tokens s).length < 5)) ∧
    ((tokens s).length ≥ 7 → Src.Seven.try_from s = some (Except.ok (((tokens s).take 7).map C12.tokenSpec))) ∧
    Src.parse.five_from_index s = some (parseHand 5 s) := by
  refine ⟨(u32_from_index s).trans (congrArg some (C12.C12_token s)), ?_, ?_, parse_five_from_index s⟩
  · intro r hr
    rw [Five_try_from] at hr
    cases hr
    rw [← (C12.C12_hand 5 s).1]
    cases parseHand 5 s <;> simp
  · intro hge
    rw [Seven_try_from, ((C12.C12_hand 7 s).2) hge]

end Tie

/-! ## axiom audit (written by tools/tie.py --audit) -/
#print axioms Tie.C01_source
#print axioms Tie.srcValue_eq
#print axioms Tie.C02_source
#print axioms Tie.C04_source
#print axioms Tie.C05_source
#print axioms Tie.C12_source
