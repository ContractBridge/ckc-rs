import CkcVerif.Tie.Misc
/-!
# Source tie: constructors, accessors, setters, array views of the six containers (property C19's mechanism)

Accessor `k` reads slot `k`, setter `k` writes slot `k` and nothing else (`List.set`), `to_arr` / `From` are the identity on
the slot list — for the *current text* of each of these functions, and for every slot list.
-/
namespace Tie
open CK

theorem Two_first (a b : Nat) : Src.Two.first [a, b] = some a := rfl
theorem Two_set_first (ws : List Nat) (x : Nat) : Src.Two.set_first ws x = some (applyOp ws (.set 0 x)) := rfl
theorem Two_second (a b : Nat) : Src.Two.second [a, b] = some b := rfl
theorem Two_set_second (ws : List Nat) (x : Nat) : Src.Two.set_second ws x = some (applyOp ws (.set 1 x)) := rfl
theorem Two_to_arr (ws : List Nat) : Src.Two.to_arr ws = some ws := rfl
theorem Two_from (ws : List Nat) : Src.Two.from ws = some ws := rfl
theorem Two_sort_in_place (ws : List Nat) : Src.Two.sort_in_place ws = some (sortDesc ws) := by
  simp only [Src.Two.sort_in_place, sortAsc_reverse]
theorem Two_contain_blank (ws : List Nat) : Src.Two.contain_blank ws = some (containBlank ws) := contain_blank_any ws
theorem Three_first (a b c : Nat) : Src.Three.first [a, b, c] = some a := rfl
theorem Three_set_first (ws : List Nat) (x : Nat) : Src.Three.set_first ws x = some (applyOp ws (.set 0 x)) := rfl
theorem Three_second (a b c : Nat) : Src.Three.second [a, b, c] = some b := rfl
theorem Three_set_second (ws : List Nat) (x : Nat) : Src.Three.set_second ws x = some (applyOp ws (.set 1 x)) := rfl
theorem Three_third (a b c : Nat) : Src.Three.third [a, b, c] = some c := rfl
theorem Three_set_third (ws : List Nat) (x : Nat) : Src.Three.set_third ws x = some (applyOp ws (.set 2 x)) := rfl
theorem Three_to_arr (ws : List Nat) : Src.Three.to_arr ws = some ws := rfl
theorem Three_from (ws : List Nat) : Src.Three.from ws = some ws := rfl
theorem Three_sort_in_place (ws : List Nat) : Src.Three.sort_in_place ws = some (sortDesc ws) := by
  simp only [Src.Three.sort_in_place, sortAsc_reverse]
theorem Three_contain_blank (ws : List Nat) : Src.Three.contain_blank ws = some (containBlank ws) := contain_blank_any ws
theorem Four_first (a b c d : Nat) : Src.Four.first [a, b, c, d] = some a := rfl
theorem Four_set_first (ws : List Nat) (x : Nat) : Src.Four.set_first ws x = some (applyOp ws (.set 0 x)) := rfl
theorem Four_second (a b c d : Nat) : Src.Four.second [a, b, c, d] = some b := rfl
theorem Four_set_second (ws : List Nat) (x : Nat) : Src.Four.set_second ws x = some (applyOp ws (.set 1 x)) := rfl
theorem Four_third (a b c d : Nat) : Src.Four.third [a, b, c, d] = some c := rfl
theorem Four_set_third (ws : List Nat) (x : Nat) : Src.Four.set_third ws x = some (applyOp ws (.set 2 x)) := rfl
theorem Four_forth (a b c d : Nat) : Src.Four.forth [a, b, c, d] = some d := rfl
theorem Four_set_forth (ws : List Nat) (x : Nat) : Src.Four.set_forth ws x = some (applyOp ws (.set 3 x)) := rfl
theorem Four_to_arr (ws : List Nat) : Src.Four.to_arr ws = some ws := rfl
theorem Four_from (ws : List Nat) : Src.Four.from ws = some ws := rfl
theorem Four_sort_in_place (ws : List Nat) : Src.Four.sort_in_place ws = some (sortDesc ws) := by
  simp only [Src.Four.sort_in_place, sortAsc_reverse]
theorem Four_contain_blank (ws : List Nat) : Src.Four.contain_blank ws = some (containBlank ws) := contain_blank_any ws
theorem Five_set_first (ws : List Nat) (x : Nat) : Src.Five.set_first ws x = some (applyOp ws (.set 0 x)) := rfl
theorem Five_set_second (ws : List Nat) (x : Nat) : Src.Five.set_second ws x = some (applyOp ws (.set 1 x)) := rfl
theorem Five_set_forth (ws : List Nat) (x : Nat) : Src.Five.set_forth ws x = some (applyOp ws (.set 3 x)) := rfl
theorem Five_set_fifth (ws : List Nat) (x : Nat) : Src.Five.set_fifth ws x = some (applyOp ws (.set 4 x)) := rfl
theorem Five_to_arr (ws : List Nat) : Src.Five.to_arr ws = some ws := rfl
theorem Five_from (ws : List Nat) : Src.Five.from ws = some ws := rfl
theorem Six_first (a b c d e f : Nat) : Src.Six.first [a, b, c, d, e, f] = some a := rfl
theorem Six_set_first (ws : List Nat) (x : Nat) : Src.Six.set_first ws x = some (applyOp ws (.set 0 x)) := rfl
theorem Six_second (a b c d e f : Nat) : Src.Six.second [a, b, c, d, e, f] = some b := rfl
theorem Six_set_second (ws : List Nat) (x : Nat) : Src.Six.set_second ws x = some (applyOp ws (.set 1 x)) := rfl
theorem Six_third (a b c d e f : Nat) : Src.Six.third [a, b, c, d, e, f] = some c := rfl
theorem Six_set_third (ws : List Nat) (x : Nat) : Src.Six.set_third ws x = some (applyOp ws (.set 2 x)) := rfl
theorem Six_forth (a b c d e f : Nat) : Src.Six.forth [a, b, c, d, e, f] = some d := rfl
theorem Six_set_forth (ws : List Nat) (x : Nat) : Src.Six.set_forth ws x = some (applyOp ws (.set 3 x)) := rfl
theorem Six_fifth (a b c d e f : Nat) : Src.Six.fifth [a, b, c, d, e, f] = some e := rfl
theorem Six_set_fifth (ws : List Nat) (x : Nat) : Src.Six.set_fifth ws x = some (applyOp ws (.set 4 x)) := rfl
theorem Six_sixth (a b c d e f : Nat) : Src.Six.sixth [a, b, c, d, e, f] = some f := rfl
theorem Six_set_sixth (ws : List Nat) (x : Nat) : Src.Six.set_sixth ws x = some (applyOp ws (.set 5 x)) := rfl
theorem Six_to_arr (ws : List Nat) : Src.Six.to_arr ws = some ws := rfl
theorem Six_from (ws : List Nat) : Src.Six.from ws = some ws := rfl
theorem Six_sort_in_place (ws : List Nat) : Src.Six.sort_in_place ws = some (sortDesc ws) := by
  simp only [Src.Six.sort_in_place, sortAsc_reverse]
theorem Seven_first (a b c d e f g : Nat) : Src.Seven.first [a, b, c, d, e, f, g] = some a := rfl
theorem Seven_set_first (ws : List Nat) (x : Nat) : Src.Seven.set_first ws x = some (applyOp ws (.set 0 x)) := rfl
theorem Seven_second (a b c d e f g : Nat) : Src.Seven.second [a, b, c, d, e, f, g] = some b := rfl
theorem Seven_set_second (ws : List Nat) (x : Nat) : Src.Seven.set_second ws x = some (applyOp ws (.set 1 x)) := rfl
theorem Seven_third (a b c d e f g : Nat) : Src.Seven.third [a, b, c, d, e, f, g] = some c := rfl
theorem Seven_set_third (ws : List Nat) (x : Nat) : Src.Seven.set_third ws x = some (applyOp ws (.set 2 x)) := rfl
theorem Seven_forth (a b c d e f g : Nat) : Src.Seven.forth [a, b, c, d, e, f, g] = some d := rfl
theorem Seven_set_forth (ws : List Nat) (x : Nat) : Src.Seven.set_forth ws x = some (applyOp ws (.set 3 x)) := rfl
theorem Seven_fifth (a b c d e f g : Nat) : Src.Seven.fifth [a, b, c, d, e, f, g] = some e := rfl
theorem Seven_set_fifth (ws : List Nat) (x : Nat) : Src.Seven.set_fifth ws x = some (applyOp ws (.set 4 x)) := rfl
theorem Seven_sixth (a b c d e f g : Nat) : Src.Seven.sixth [a, b, c, d, e, f, g] = some f := rfl
theorem Seven_set_sixth (ws : List Nat) (x : Nat) : Src.Seven.set_sixth ws x = some (applyOp ws (.set 5 x)) := rfl
theorem Seven_seventh (a b c d e f g : Nat) : Src.Seven.seventh [a, b, c, d, e, f, g] = some g := rfl
theorem Seven_to_arr (ws : List Nat) : Src.Seven.to_arr ws = some ws := rfl
theorem Seven_from (ws : List Nat) : Src.Seven.from ws = some ws := rfl
theorem Seven_sort_in_place (ws : List Nat) : Src.Seven.sort_in_place ws = some (sortDesc ws) := by
  simp only [Src.Seven.sort_in_place, sortAsc_reverse]
theorem Three_is_valid (a b c : Nat) : Src.Three.is_valid [a, b, c] = some (isValid [a, b, c]) :=
  is_valid_of (Three_are_unique a b c) (Three_is_corrupt _)
theorem Four_is_valid (a b c d : Nat) : Src.Four.is_valid [a, b, c, d] = some (isValid [a, b, c, d]) :=
  is_valid_of (Four_are_unique a b c d) (Four_is_corrupt _)
theorem Two_new (a b : Nat) : Src.Two.new a b = some [a, b] := rfl
theorem Five_new (a b c d e : Nat) : Src.Five.new a b c d e = some [a, b, c, d, e] := rfl

theorem Two_iter (ws : List Nat) : Src.Two.iter ws = some ws := rfl
theorem Three_iter (ws : List Nat) : Src.Three.iter ws = some ws := rfl
theorem Four_iter (ws : List Nat) : Src.Four.iter ws = some ws := rfl
theorem Five_iter (ws : List Nat) : Src.Five.iter ws = some ws := rfl
theorem Six_iter (ws : List Nat) : Src.Six.iter ws = some ws := rfl
theorem Seven_iter (ws : List Nat) : Src.Seven.iter ws = some ws := rfl

end Tie

/-! ## axiom audit (written by tools/tie.py --audit) -/
#print axioms Tie.Two_first
#print axioms Tie.Two_set_first
#print axioms Tie.Two_second
#print axioms Tie.Two_set_second
#print axioms Tie.Two_to_arr
#print axioms Tie.Two_from
#print axioms Tie.Two_sort_in_place
#print axioms Tie.Two_contain_blank
#print axioms Tie.Three_first
#print axioms Tie.Three_set_first
#print axioms Tie.Three_second
#print axioms Tie.Three_set_second
#print axioms Tie.Three_third
#print axioms Tie.Three_set_third
#print axioms Tie.Three_to_arr
#print axioms Tie.Three_from
#print axioms Tie.Three_sort_in_place
#print axioms Tie.Three_contain_blank
#print axioms Tie.Four_first
#print axioms Tie.Four_set_first
#print axioms Tie.Four_second
#print axioms Tie.Four_set_second
#print axioms Tie.Four_third
#print axioms Tie.Four_set_third
#print axioms Tie.Four_forth
#print axioms Tie.Four_set_forth
#print axioms Tie.Four_to_arr
#print axioms Tie.Four_from
#print axioms Tie.Four_sort_in_place
#print axioms Tie.Four_contain_blank
#print axioms Tie.Five_set_first
#print axioms Tie.Five_set_second
#print axioms Tie.Five_set_forth
#print axioms Tie.Five_set_fifth
#print axioms Tie.Five_to_arr
#print axioms Tie.Five_from
#print axioms Tie.Six_first
#print axioms Tie.Six_set_first
#print axioms Tie.Six_second
#print axioms Tie.Six_set_second
#print axioms Tie.Six_third
#print axioms Tie.Six_set_third
#print axioms Tie.Six_forth
#print axioms Tie.Six_set_forth
#print axioms Tie.Six_fifth
#print axioms Tie.Six_set_fifth
#print axioms Tie.Six_sixth
#print axioms Tie.Six_set_sixth
#print axioms Tie.Six_to_arr
#print axioms Tie.Six_from
#print axioms Tie.Six_sort_in_place
#print axioms Tie.Seven_first
#print axioms Tie.Seven_set_first
#print axioms Tie.Seven_second
#print axioms Tie.Seven_set_second
#print axioms Tie.Seven_third
#print axioms Tie.Seven_set_third
#print axioms Tie.Seven_forth
#print axioms Tie.Seven_set_forth
#print axioms Tie.Seven_fifth
#print axioms Tie.Seven_set_fifth
#print axioms Tie.Seven_sixth
#print axioms Tie.Seven_set_sixth
#print axioms Tie.Seven_seventh
#print axioms Tie.Seven_to_arr
#print axioms Tie.Seven_from
#print axioms Tie.Seven_sort_in_place
#print axioms Tie.Three_is_valid
#print axioms Tie.Four_is_valid
#print axioms Tie.Two_new
#print axioms Tie.Five_new
#print axioms Tie.Two_iter
#print axioms Tie.Three_iter
#print axioms Tie.Four_iter
#print axioms Tie.Five_iter
#print axioms Tie.Six_iter
#print axioms Tie.Seven_iter
