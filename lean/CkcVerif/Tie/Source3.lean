import CkcVerif.Tie.Source2
import CkcVerif.Tie.Rank
import CkcVerif.Props.C06
import CkcVerif.Props.C07
import CkcVerif.Props.C09
import CkcVerif.Props.C10
import CkcVerif.Props.C18
import CkcVerif.Props.C15
import CkcVerif.Props.C16
/-!
# The properties, stated about the translated source (C06, C07, C09, C10, C18)
-/
namespace Tie
open CK Spec Lemmas

/-- C10 for the source: of all words the 52-pattern filter passes exactly the layout words; construction from a proper
    rank and suit gives that card's layout word -/
theorem C10_source :
    (∀ w, Src.u32.filter w = some (if w ∈ deckWords then w else 0)) ∧
    (∀ c : Card, c.ok → Src.u32.create (rankDisc c.rank) (suitDisc c.suit) = some c.word) := by
  refine ⟨fun w => (u32_filter w).trans (congrArg some (C10.C10_filter w)), ?_⟩
  intro c h
  have hm : ∀ r < 13, ∀ s < 4, rankDisc r ∈ rankVals ∧ suitDisc s ∈ suitVals := by decide
  obtain ⟨m1, m2⟩ := hm c.rank h.1 c.suit h.2
  rw [create_graph _ m1 _ m2, C10.C10_create_card c h]

/-- C18 for the source: `Deck::get` -/
theorem C18_source (i : Nat) : Src.Deck.get i = some (if i < 52 then deckWords.getD i 0 else 0) :=
  (Deck_get i).trans (congrArg some (C18.C18_deck_get i))

/-- C07 for the source: on converted ranks the hand-written comparison is comparison of an injective key -/
theorem C07_source (a b : Nat) (ha : a < 65536) (hb : b < 65536) :
    ∃ ra rb, Src.HandRank.from a = some ra ∧ Src.HandRank.from b = some rb ∧
      Src.HandRank.cmp ra rb = some (compare (C07.keyOf a) (C07.keyOf b)) ∧
      Src.HandRank.partial_cmp ra rb = some (some (compare (C07.keyOf a) (C07.keyOf b))) ∧
      (compare (C07.keyOf a) (C07.keyOf b) = .eq ↔ a = b) := by
  obtain ⟨ra, ea, ma⟩ := from_some a
  obtain ⟨rb, eb, mb⟩ := from_some b
  have hk := C07.C07_cmp_is_key_order a b ha hb
  refine ⟨ra, rb, ea, eb, ?_, ?_, ?_⟩
  · rw [HandRank_cmp, ma, mb, hk]
  · rw [HandRank_partial_cmp, ma, mb, hk]
  · exact ⟨fun h => C07.C07_key_injective a b ha hb (by simpa [Nat.compare_eq_eq] using h),
      fun h => by subst h; simp⟩

/-- C06 for the source: the rank reported for five distinct real cards names their category and class -/
theorem C06_source {cs : List Card} (h : IsHand 5 cs) :
    ∃ r, Src.Five.hand_rank 14 (words cs) = some r ∧ Src.Five.hand_rank_validated 14 (words cs) = some r ∧
      Src.Five.hand_rank_value 14 (words cs) = some r.value ∧ r.name ≠ 9 ∧
      Gen.nameNames.getD r.name "" = categoryName (handStrength cs / 13 ^ 5) ∧
      Gen.classNames.getD r.class_ "" = specName (descrOfStrength (handStrength cs)) := by
  obtain ⟨v, _, _, q1, _, _, q4, _, _⟩ := C01.C01_entry_points h
  obtain ⟨_, hn, _, hc, hnm⟩ := C06.C06_hand h q1
  obtain ⟨r, er, mr⟩ := from_some v
  rw [← mr] at hn hc hnm
  have hv : r.value = v := congrArg HandRank.value mr
  obtain ⟨c1, c2, c3, c4, c5, rfl⟩ := hand5_cases h
  have e1 : Src.Five.hand_rank_value 14 (words [c1, c2, c3, c4, c5]) = some v := (Five_hand_rank_value ..).trans q1
  have e4 : Src.Five.hand_rank_value_validated 14 (words [c1, c2, c3, c4, c5]) = some v :=
    (Five_hand_rank_value_validated ..).trans q4
  refine ⟨r, ?_, ?_, hv ▸ e1, fun h9 => ?_, hnm, hc⟩
  · simp only [Src.Five.hand_rank, e1, Option.bind_some, er]
  · simp only [Src.Five.hand_rank_validated, e4, Option.bind_some, er]
  · have : r.name = 8 - handStrength [c1, c2, c3, c4, c5] / 13 ^ 5 := hn
    omega

/-- C09 for the source: a seven-card hand is at least as strong as each six-card sub-hand, which is at least as strong
    as each of its five-card sub-hands -/
theorem C09_source {cs g f : List Card} (h : IsHand 7 cs) (hg : g ∈ combos 6 cs) (hf : f ∈ combos 5 g) :
    ∃ v7 v6 v5, srcValue (words cs) = some v7 ∧ srcValue (words g) = some v6 ∧ srcValue (words f) = some v5 ∧
      1 ≤ v7 ∧ v7 ≤ v6 ∧ v6 ≤ v5 ∧ v5 ≤ 7462 := by
  obtain ⟨v7, v6, v5, e7, e6, e5, b⟩ := C09.C09_chain_values h hg hf
  have hg6 := sub_hand h hg
  have l7 := h.length_words
  have l6 := hg6.length_words
  have l5 := (sub_hand hg6 hf).length_words
  exact ⟨v7, v6, v5, ((srcValue_eq _ (by omega)).1).trans e7, ((srcValue_eq _ (by omega)).1).trans e6,
    ((srcValue_eq _ (by omega)).1).trans e5, b⟩

/-- C15 for the source: the set operations are set operations (union, subset test, count, validity), and the set of a
    hand / of a text holds exactly the cards in its slots / named by its tokens -/
theorem C15_source_sets (x y : Nat) :
    (∃ u, Src.u64.fold_in x y = some u ∧ ∀ k, u.testBit k = (x.testBit k || y.testBit k)) ∧
    (∃ b, Src.u64.has x y = some b ∧ (b = true ↔ ∀ k, y.testBit k = true → x.testBit k = true)) ∧
    Src.u64.number_of_cards x = some (((List.range 64).filter (fun k => x.testBit k)).length) ∧
    (x < 2 ^ 64 → ∃ v, Src.u64.is_valid x = some v ∧ (v = true ↔ (x ≠ 0 ∧ ∀ k, 52 ≤ k → x.testBit k = false))) := by
  refine ⟨⟨_, u64_fold_in x y, fun k => C15.C15_fold_in x y k⟩, ⟨_, u64_has x y, C15.C15_has x y⟩, ?_, ?_⟩
  · rw [u64_number_of_cards, C15.C15_count]
  · intro hx; exact ⟨_, u64_is_valid x, C15.C15_valid x hx⟩

theorem C15_source_from (a b c d e : Nat) (s : List Nat) (k : Nat) :
    (∃ u, Src.u64.from_five [a, b, c, d, e] = some u ∧
      (u.testBit k = true ↔ (k < 52 ∧ deckWords.getD (51 - k) 0 ∈ [a, b, c, d, e]))) ∧
    Src.u64.from_index s = some (bcFromHand ((tokens s).map fromIndex)) :=
  ⟨⟨_, u64_from_five a b c d e, C15.C15_from_hand _ k⟩, (u64_from_index s).trans (congrArg some (C15.C15_from_text s))⟩

/-- C16 for the source: conversion succeeds exactly for two card bits -/
theorem C16_source_success (x : Nat) (hx : x < 2 ^ 64) :
    (∃ a b, Src.Two.try_from__2 x = some (Except.ok [a, b])) ↔ (∃ i j, j < i ∧ i < 52 ∧ x = 2 ^ i ||| 2 ^ j) := by
  rw [← C16.C16_success_iff x hx, Two_try_from__2]
  cases twoFromBc x <;> simp [resultCode]

end Tie

/-! ## axiom audit (written by tools/tie.py --audit) -/
#print axioms Tie.C10_source
#print axioms Tie.C18_source
#print axioms Tie.C07_source
#print axioms Tie.C06_source
#print axioms Tie.C09_source
#print axioms Tie.C15_source_sets
#print axioms Tie.C15_source_from
#print axioms Tie.C16_source_success
