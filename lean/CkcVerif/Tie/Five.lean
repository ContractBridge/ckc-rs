import CkcVerif.Generated.Src
import CkcVerif.Model.Five
import CkcVerif.Model.Hand
import CkcVerif.Lemmas.Find
/-!
# Source tie, `src/cards/five.rs`: the mechanical translation of the current source equals the hand-written model

Each theorem states that the Lean definition written by `tools/rs2lean.py` from the *current* text of the
function agrees with the model definition the property theorems are about, for **all** arguments.
-/
namespace Tie
open CK

theorem Five_first (a b c d e : Nat) : Src.Five.first [a, b, c, d, e] = some a := rfl
theorem Five_second (a b c d e : Nat) : Src.Five.second [a, b, c, d, e] = some b := rfl
theorem Five_third (a b c d e : Nat) : Src.Five.third [a, b, c, d, e] = some c := rfl
theorem Five_forth (a b c d e : Nat) : Src.Five.forth [a, b, c, d, e] = some d := rfl
theorem Five_fifth (a b c d e : Nat) : Src.Five.fifth [a, b, c, d, e] = some e := rfl

theorem consts :
    Src.CardNumber.SUIT_FILTER = Gen.suitFilter ∧ Src.CardNumber.RANK_FLAG_SHIFT = Gen.rankFlagShift ∧
    Src.CardNumber.RANK_PRIME_FILTER = Gen.rankPrimeFilter ∧ Src.Five.STRAIGHT_PADDING = Gen.straightPadding ∧
    Src.Five.WHEEL_OR_BITS = Gen.wheelOrBits ∧ Src.Five.POSSIBLE_COMBINATIONS = Gen.possibleCombinations ∧
    Src.CardNumber.BLANK = Gen.blank ∧ Src.hand_rank.NO_HAND_RANK_VALUE = Gen.noHandRankValue := by decide

theorem Five_and_bits (a b c d e : Nat) : Src.Five.and_bits [a, b, c, d, e] = some (andBits [a, b, c, d, e]) := rfl
theorem Five_or_bits (a b c d e : Nat) : Src.Five.or_bits [a, b, c, d, e] = some (orBits [a, b, c, d, e]) := rfl
theorem Five_or_rank_bits (a b c d e : Nat) :
    Src.Five.or_rank_bits [a, b, c, d, e] = some (orRankBits [a, b, c, d, e]) := rfl
theorem Five_is_flush (a b c d e : Nat) : Src.Five.is_flush [a, b, c, d, e] = some (isFlush [a, b, c, d, e]) := rfl
theorem and63 (x : Nat) : x &&& Src.CardNumber.RANK_PRIME_FILTER ≤ 63 := Nat.and_le_right
theorem mul_ok {w a b : Nat} (h : a * b < 2 ^ w) : Src.mul w a b = some (a * b) := by simp [Src.mul, h]
theorem add_ok {w a b : Nat} (h : a + b < 2 ^ w) : Src.add w a b = some (a + b) := by simp [Src.add, h]
/-- a translated `p && q`: the right operand is evaluated only where the left one holds -/
theorem and_then (p q : Bool) : (if p then some q else some false) = some (p && q) := by cases p <;> rfl

/-- the four `u32` multiplications never overflow (each factor is at most 63) -/
theorem Five_multiply_primes (a b c d e : Nat) :
    Src.Five.multiply_primes [a, b, c, d, e] = some (multiplyPrimes [a, b, c, d, e]) := by
  have ha := and63 a; have hb := and63 b; have hc := and63 c; have hd := and63 d; have he := and63 e
  have h2 : (a &&& Src.CardNumber.RANK_PRIME_FILTER) * (b &&& Src.CardNumber.RANK_PRIME_FILTER) ≤ 63 * 63 := Nat.mul_le_mul ha hb
  have h3 := Nat.mul_le_mul h2 hc
  have h4 := Nat.mul_le_mul h3 hd
  have h5 := Nat.mul_le_mul h4 he
  simp only [Src.Five.multiply_primes, Src.Five.first, Src.Five.second, Src.Five.third, Src.Five.forth, Src.Five.fifth,
    Src.u32.get_rank_prime, Src.u32.as_u32, Option.bind, List.getD_cons_zero, List.getD_cons_succ]
  rw [mul_ok (by omega)]; simp only
  rw [mul_ok (by omega)]; simp only
  rw [mul_ok (by omega)]; simp only
  rw [mul_ok (by omega)]
  rfl
theorem tzGo_le : ∀ (f x acc : Nat), tzGo f x acc ≤ f + acc := by
  intro f
  induction f with
  | zero => intro x acc; simp [tzGo]
  | succ n ih =>
    intro x acc
    unfold tzGo
    split
    · omega
    · have := ih (x / 2) (acc + 1); omega
theorem tz32_le (x : Nat) : tz32 x ≤ 32 := by
  unfold tz32; split
  · omega
  · have := tzGo_le 32 x 0; omega
theorem lz32_le (x : Nat) : lz32 x ≤ 32 := by
  unfold lz32; split <;> omega

theorem c_STRAIGHT_PADDING : Src.Five.STRAIGHT_PADDING = Gen.straightPadding := by decide
theorem c_WHEEL_OR_BITS : Src.Five.WHEEL_OR_BITS = Gen.wheelOrBits := by decide
theorem Five_is_straight (a b c d e : Nat) :
    Src.Five.is_straight [a, b, c, d, e] = some (isStraight [a, b, c, d, e]) := by
  have hb : tz32 (orRankBits [a, b, c, d, e]) + lz32 (orRankBits [a, b, c, d, e]) < 2 ^ 32 := by
    have := tz32_le (orRankBits [a, b, c, d, e]); have := lz32_le (orRankBits [a, b, c, d, e]); omega
  simp only [Src.Five.is_straight, Five_or_rank_bits, Option.bind, add_ok hb, and_then, isStraight, c_STRAIGHT_PADDING,
    c_WHEEL_OR_BITS]
theorem Five_is_wheel (a b c d e : Nat) : Src.Five.is_wheel [a, b, c, d, e] = some (isWheel [a, b, c, d, e]) := rfl
theorem Five_is_straight_flush (a b c d e : Nat) :
    Src.Five.is_straight_flush [a, b, c, d, e] = some (isStraightFlush [a, b, c, d, e]) := by
  simp only [Src.Five.is_straight_flush, Five_is_straight, Five_is_flush, Option.bind, and_then, isStraightFlush]

end Tie

namespace Tie
open CK

/-- the translated `while` loop of `find_in_products`, followed by the code after it, is `findGo`; the two additions
    (`high + low`, `mid + 1`) stay far below the integer width because both bounds stay below 4,889 -/
theorem find_loop (key : Nat) : ∀ (fuel low high : Nat), low ≤ 4888 → high ≤ 4887 →
    Option.bind (Src.whileFuel (ρ := Nat) fuel (high, low) fun (high, low) =>
      if (decide (low ≤ high)) then
        Option.bind (Src.add 31 high low) fun t1_ =>
        let mid := (t1_ >>> 1)
        Option.bind (CK.packed.products mid) fun t2_ =>
        let product := t2_
        if (decide (key < product)) then
          if (mid == 0) then
            some (Src.Ctl.brk (high, low))
          else
            Option.bind (Src.sub mid 1) fun t3_ =>
            let high := t3_
            some (Src.Ctl.next (high, low))
        else
          if (decide (key > product)) then
            Option.bind (Src.add 31 mid 1) fun t4_ =>
            let low := t4_
            some (Src.Ctl.next (high, low))
          else
            some (Src.Ctl.ret mid)
      else some (Src.Ctl.brk (high, low))) (fun r5_ =>
      match r5_ with
      | Src.Out.ret v6_ => some v6_
      | Src.Out.done (high, low) => some 0)
    = findGo packed key fuel low high := by
  intro fuel
  induction fuel with
  | zero => intro low high _ _; rfl
  | succ n ih =>
    intro low high hl hh
    unfold Src.whileFuel findGo
    by_cases h : low ≤ high
    · have hsum : high + low < 2 ^ 31 := by omega
      have hmid : (high + low) >>> 1 ≤ 4887 := by
        rw [Nat.shiftRight_eq_div_pow]; omega
      have hmid1 : (high + low) >>> 1 + 1 < 2 ^ 31 := by omega
      simp only [h, decide_true, if_true, add_ok hsum, Option.bind]
      cases hp : packed.products ((high + low) >>> 1) with
      | none => simp
      | some product =>
        simp only
        by_cases h1 : key < product
        · simp only [h1, decide_true, if_true]
          by_cases h2 : (high + low) >>> 1 = 0
          · simp [h2]
          · have h3 : ((high + low) >>> 1 == 0) = false := by simp [h2]
            have h4 : 1 ≤ (high + low) >>> 1 := by omega
            simp only [h3, Src.sub, h4, if_true, Bool.false_eq_true, if_false, h2]
            exact ih low ((high + low) >>> 1 - 1) hl (by omega)
        · simp only [h1, decide_false, Bool.false_eq_true, if_false]
          by_cases h5 : key > product
          · simp only [h5, decide_true, if_true, add_ok hmid1]
            exact ih ((high + low) >>> 1 + 1) high (by omega) hh
          · simp [h5]
    · simp [h]

theorem Five_find_in_products (fuel key : Nat) :
    Src.Five.find_in_products fuel key = findGo packed key fuel 0 4887 := by
  unfold Src.Five.find_in_products
  exact find_loop key fuel 0 4887 (by omega) (by omega)

theorem Five_find_in_products_14 (key : Nat) : Src.Five.find_in_products 14 key = findInProducts packed key :=
  Five_find_in_products 14 key

end Tie

namespace Tie
open CK

theorem c_NO_HRV : Src.hand_rank.NO_HAND_RANK_VALUE = Gen.noHandRankValue := by decide
theorem c_BLANK : Src.CardNumber.BLANK = Gen.blank := by decide
theorem c_POSSIBLE : Src.Five.POSSIBLE_COMBINATIONS = Gen.possibleCombinations := by decide
theorem c_blank_trunc : Src.CardNumber.BLANK % 65536 = Gen.blank := by decide

theorem Five_not_unique (fuel : Nat) (a b c d e : Nat) :
    Src.Five.not_unique fuel [a, b, c, d, e] =
      (match findGo packed (multiplyPrimes [a, b, c, d, e]) fuel 0 4887 with
       | none => none
       | some idx =>
         match packed.products idx with
         | none => none
         | some p => if p != multiplyPrimes [a, b, c, d, e] then some Gen.noHandRankValue else packed.values idx) := by
  simp only [Src.Five.not_unique, Five_multiply_primes, Option.bind, Five_find_in_products, c_NO_HRV]
  cases findGo packed (multiplyPrimes [a, b, c, d, e]) fuel 0 4887 with
  | none => rfl
  | some idx =>
    simp only
    cases packed.products idx with
    | none => rfl
    | some p =>
      simp only
      split
      · rfl
      · cases packed.values idx <;> rfl

theorem Five_not_unique_14 (a b c d e : Nat) :
    Src.Five.not_unique 14 [a, b, c, d, e] = notUnique packed [a, b, c, d, e] := by
  rw [Five_not_unique]; rfl

theorem Five_unique (i : Nat) : Src.Five.unique i = unique packed i := by
  simp only [Src.Five.unique, unique, c_POSSIBLE, c_blank_trunc, Option.bind_fun_some, decide_eq_true_eq]

theorem Five_hand_rank_value_and_hand (a b c d e : Nat) :
    Src.Five.hand_rank_value_and_hand 14 [a, b, c, d, e] = handRankValueAndHand5 packed [a, b, c, d, e] := by
  simp only [Src.Five.hand_rank_value_and_hand, Five_or_rank_bits, Five_is_flush, Option.bind, Five_unique,
    Five_not_unique_14, handRankValueAndHand5, handRankValue5, evalCore, notUnique]
  cases isFlush [a, b, c, d, e] with
  | true =>
    simp only [if_true]
    cases packed.flushes (orRankBits [a, b, c, d, e]) <;> rfl
  | false =>
    simp only [Bool.false_eq_true, if_false]
    cases unique packed (orRankBits [a, b, c, d, e]) with
    | none => rfl
    | some u =>
      cases u with
      | zero =>
        simp only [beq_self_eq_true, if_true]
        cases notUniqueKey packed (multiplyPrimes [a, b, c, d, e]) <;> rfl
      | succ n => simp

theorem Five_hand_rank_value (a b c d e : Nat) :
    Src.Five.hand_rank_value 14 [a, b, c, d, e] = handRankValue5 packed [a, b, c, d, e] := by
  simp only [Src.Five.hand_rank_value, Five_hand_rank_value_and_hand, handRankValueAndHand5, Option.bind]
  cases handRankValue5 packed [a, b, c, d, e] <;> rfl

end Tie

/-! ## axiom audit (written by tools/tie.py --audit) -/
#print axioms Tie.Five_first
#print axioms Tie.Five_second
#print axioms Tie.Five_third
#print axioms Tie.Five_forth
#print axioms Tie.Five_fifth
#print axioms Tie.consts
#print axioms Tie.Five_and_bits
#print axioms Tie.Five_or_bits
#print axioms Tie.Five_or_rank_bits
#print axioms Tie.Five_is_flush
#print axioms Tie.and63
#print axioms Tie.mul_ok
#print axioms Tie.add_ok
#print axioms Tie.and_then
#print axioms Tie.Five_multiply_primes
#print axioms Tie.tzGo_le
#print axioms Tie.tz32_le
#print axioms Tie.lz32_le
#print axioms Tie.c_STRAIGHT_PADDING
#print axioms Tie.c_WHEEL_OR_BITS
#print axioms Tie.Five_is_straight
#print axioms Tie.Five_is_wheel
#print axioms Tie.Five_is_straight_flush
#print axioms Tie.find_loop
#print axioms Tie.Five_find_in_products
#print axioms Tie.Five_find_in_products_14
#print axioms Tie.c_NO_HRV
#print axioms Tie.c_BLANK
#print axioms Tie.c_POSSIBLE
#print axioms Tie.c_blank_trunc
#print axioms Tie.Five_not_unique
#print axioms Tie.Five_not_unique_14
#print axioms Tie.Five_unique
#print axioms Tie.Five_hand_rank_value_and_hand
#print axioms Tie.Five_hand_rank_value
