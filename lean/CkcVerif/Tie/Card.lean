import CkcVerif.Generated.Src
import CkcVerif.Model.Card
import CkcVerif.Model.Fields
import CkcVerif.Lemmas.CardFacts
import CkcVerif.Lemmas.Sweep
/-!
# Source tie, `src/lib.rs`: card-level functions

The model's `filter` is the complete graph of the compiled function over all 2^32 words; here the *text* of the
52-pattern match is shown to denote the same function, for every `Nat`.
-/
namespace Tie
open CK Spec

theorem contains_congr {l1 l2 : List Nat} (h1 : ∀ x ∈ l1, x ∈ l2) (h2 : ∀ x ∈ l2, x ∈ l1) (w : Nat) :
    l1.contains w = l2.contains w :=
  Bool.eq_iff_iff.mpr (by simp only [List.contains_iff_mem]; exact ⟨h1 w, h2 w⟩)

theorem u32_filter (w : Nat) : Src.u32.filter w = some (filter w) := by
  unfold Src.u32.filter
  rw [contains_congr (l2 := deckWords) (by decide +kernel) (by decide +kernel) w, Lemmas.filter_eq]
  by_cases h : w ∈ deckWords <;> simp [h, Src.CardNumber.BLANK]

theorem CardNumber_filter (w : Nat) : Src.CardNumber.filter w = some (filter w) := by
  simp only [Src.CardNumber.filter, u32_filter, Option.bind]

/-! ### constant-pattern matches (`Src.matchTable`) against the regenerated complete graphs -/

/-- two association lists that agree (up to the default) on the keys of either one denote the same function -/
theorem matchTable_eq (t1 t2 : List (Nat × Nat)) (d : Nat)
    (h1 : ∀ k ∈ t1.map (·.1), (t1.lookup k).getD d = (t2.lookup k).getD d)
    (h2 : ∀ k ∈ t2.map (·.1), (t1.lookup k).getD d = (t2.lookup k).getD d) (w : Nat) :
    Src.matchTable t1 d w = (t2.lookup w).getD d := by
  unfold Src.matchTable
  by_cases m1 : w ∈ t1.map (·.1)
  · exact h1 w m1
  · by_cases m2 : w ∈ t2.map (·.1)
    · exact h2 w m2
    · have hn : ∀ {t : List (Nat × Nat)}, w ∉ t.map (·.1) → t.lookup w = none := fun m =>
        Lemmas.lookup_none fun p hp e => m (e ▸ List.mem_map_of_mem hp)
      rw [hn m1, hn m2]

theorem u64_from_ckc (w : Nat) : Src.u64.from_ckc w = some (fromCkc w) := by
  unfold Src.u64.from_ckc fromCkc
  rw [matchTable_eq _ Gen.fromCkcPoints _ (by decide +kernel) (by decide +kernel)]; rfl

theorem u32_from_binary_card (x : Nat) : Src.u32.from_binary_card x = some (fromBinaryCard x) := by
  unfold Src.u32.from_binary_card fromBinaryCard
  rw [matchTable_eq _ Gen.fromBcPoints _ (by decide +kernel) (by decide +kernel)]; rfl

/-! ### field readers and flags -/
theorem c_filters : Src.CardNumber.RANK_FLAG_FILTER = Gen.rankFlagFilter ∧ Src.CardNumber.RANK_FLAG_SHIFT = Gen.rankFlagShift ∧
    Src.CardNumber.SUIT_FILTER = Gen.suitFilter ∧ Src.CardNumber.SUIT_SHIFT = Gen.suitShift ∧
    Src.CardNumber.RANK_PRIME_FILTER = Gen.rankPrimeFilter ∧ Src.CardNumber.PAIR = Gen.pairFlag ∧
    Src.CardNumber.TRIPS = Gen.tripsFlag ∧ Src.CardNumber.QUADS = Gen.quadsFlag ∧
    Src.CardNumber.MULTIPLES_FILTER = Gen.multiplesFilter := by decide

theorem u32_get_rank_flag (w : Nat) : Src.u32.get_rank_flag w = some (getRankFlag w) := rfl
theorem u32_get_rank_bit (w : Nat) : Src.u32.get_rank_bit w = some (getRankBit w) := rfl
theorem u32_get_rank_prime (w : Nat) : Src.u32.get_rank_prime w = some (getRankPrime w) := rfl
theorem u32_get_suit_flag (w : Nat) : Src.u32.get_suit_flag w = some (getSuitFlag w) := rfl
theorem u32_get_suit_bit (w : Nat) : Src.u32.get_suit_bit w = some (getSuitBit w) := rfl
theorem u32_flag_as_pair (w : Nat) : Src.u32.flag_as_pair w = some (flagAsPair w) := rfl
theorem u32_flag_as_trips (w : Nat) : Src.u32.flag_as_trips w = some (flagAsTrips w) := rfl
theorem u32_flag_as_quads (w : Nat) : Src.u32.flag_as_quads w = some (flagAsQuads w) := rfl
theorem u32_strip_multiples_flags (w : Nat) : Src.u32.strip_multiples_flags w = some (stripMultiplesFlags w) := rfl
theorem u32_is_blank (w : Nat) : Src.u32.is_blank w = some (isBlank w) := by
  by_cases h : w = 0 <;> simp [Src.u32.is_blank, isBlank, Gen.isBlankPoints, Src.CardNumber.BLANK, h]

/-! ### rank / suit of a word: the translated matches against the regenerated field graphs -/
theorem rankIdx_lt (w : Nat) : rankIdx w < 8192 := by
  unfold rankIdx
  have h : w &&& Gen.rankFlagFilter ≤ Gen.rankFlagFilter := Nat.and_le_right
  have : Gen.rankFlagFilter = 0x1FFF0000 := by decide
  rw [Nat.shiftRight_eq_div_pow]; omega
theorem suitIdx_lt (w : Nat) : suitIdx w < 16 := by
  unfold suitIdx
  have h : w &&& Gen.suitFilter ≤ Gen.suitFilter := Nat.and_le_right
  have : Gen.suitFilter = 0xF000 := by decide
  rw [Nat.shiftRight_eq_div_pow]; omega

/-- a constant-pattern match agrees with `g` below `n`: every row is a point of `g`, and `g` has the default value
    wherever no row applies.  The look-up is evaluated only where `g` differs from the default (13 of the 8,192 points
    of a rank-field graph); `matchTable T d m == g m` at every point costs ten times as much to check. -/
def matchChk (T : List (Nat × Nat)) (d n : Nat) (g : Nat → Nat) : Bool :=
  T.all (fun p => g p.1 == p.2) && (List.range n).all fun m => g m == d || (T.lookup m).isSome

theorem matchChk_spec {T : List (Nat × Nat)} {d n : Nat} {g : Nat → Nat} (h : matchChk T d n g = true) {m : Nat}
    (hm : m < n) : Src.matchTable T d m = g m := by
  rw [matchChk, Bool.and_eq_true] at h
  have h2 := Lemmas.all_range h.2 hm
  unfold Src.matchTable
  cases hl : T.lookup m with
  | some v => exact (beq_iff_eq.mp (List.all_eq_true.mp h.1 _ (Lemmas.mem_of_lookup hl))).symm
  | none => rw [hl] at h2; exact (by simpa using h2 : g m = d).symm

theorem rank_graph (m : Nat) (h : m < 8192) :
    Src.matchTable [(4096, 14), (2048, 13), (1024, 12), (512, 11), (256, 10), (128, 9), (64, 8), (32, 7), (16, 6), (8, 5), (4, 4), (2, 3), (1, 2)] 0 m
      = get 8 Gen.rankFieldRankP m := matchChk_spec (by decide +kernel) h
theorem u32_get_card_rank (w : Nat) : Src.u32.get_card_rank w = some (getCardRank w) := by
  simp only [Src.u32.get_card_rank, u32_get_rank_bit, Option.bind, getCardRank]
  exact congrArg some (rank_graph _ (rankIdx_lt w))

theorem suit_graph : ∀ m, m < 16 → Src.matchTable [(8, 4), (4, 3), (2, 2), (1, 1)] 0 m = Gen.suitFieldSuit.getD m 0 := by decide
theorem u32_get_card_suit (w : Nat) : Src.u32.get_card_suit w = some (getCardSuit w) := by
  simp only [Src.u32.get_card_suit, u32_get_suit_bit, Option.bind, getCardSuit]
  exact congrArg some (suit_graph _ (suitIdx_lt w))

theorem next_graph : ∀ m, m < 16 →
    Src.matchTable [(4, 3), (3, 2), (2, 1), (1, 4), (0, 0)] 0 (Gen.suitFieldSuit.getD m 0) = Gen.suitFieldNext.getD m 0 := by decide
theorem u32_next_suit (w : Nat) : Src.u32.next_suit w = some (nextSuit w) := by
  simp only [Src.u32.next_suit, u32_get_card_suit, Option.bind, nextSuit, getCardSuit]
  exact congrArg some (next_graph _ (suitIdx_lt w))

/-! ### `create` and the suit shift -/
def rankVals : List Nat := [0, 2, 3, 4, 5, 6, 7, 8, 9, 10, 11, 12, 13, 14]
def suitVals : List Nat := [0, 1, 2, 3, 4]

theorem getCardRank_mem (w : Nat) : getCardRank w ∈ rankVals := by
  rw [getCardRank, ← rank_graph _ (rankIdx_lt w)]
  exact Lemmas.lookup_getD_mem (by decide) (by decide) _
theorem nextSuit_mem (w : Nat) : nextSuit w ∈ suitVals :=
  (by decide : ∀ m < 16, Gen.suitFieldNext.getD m 0 ∈ suitVals) _ (suitIdx_lt w)

theorem create_graph : ∀ r ∈ rankVals, ∀ s ∈ suitVals, Src.u32.create r s = some (create r s) := by decide +kernel
theorem u32_shift_suit (w : Nat) : Src.u32.shift_suit w = some (shiftSuit w) := by
  simp only [Src.u32.shift_suit, u32_get_card_rank, u32_next_suit, Option.bind,
    create_graph _ (getCardRank_mem w) _ (nextSuit_mem w), shiftSuit]

end Tie

/-! ## axiom audit (written by tools/tie.py --audit) -/
#print axioms Tie.contains_congr
#print axioms Tie.u32_filter
#print axioms Tie.CardNumber_filter
#print axioms Tie.matchTable_eq
#print axioms Tie.u64_from_ckc
#print axioms Tie.u32_from_binary_card
#print axioms Tie.c_filters
#print axioms Tie.u32_get_rank_flag
#print axioms Tie.u32_get_rank_bit
#print axioms Tie.u32_get_rank_prime
#print axioms Tie.u32_get_suit_flag
#print axioms Tie.u32_get_suit_bit
#print axioms Tie.u32_flag_as_pair
#print axioms Tie.u32_flag_as_trips
#print axioms Tie.u32_flag_as_quads
#print axioms Tie.u32_strip_multiples_flags
#print axioms Tie.u32_is_blank
#print axioms Tie.rankIdx_lt
#print axioms Tie.suitIdx_lt
#print axioms Tie.matchChk_spec
#print axioms Tie.rank_graph
#print axioms Tie.u32_get_card_rank
#print axioms Tie.suit_graph
#print axioms Tie.u32_get_card_suit
#print axioms Tie.next_graph
#print axioms Tie.u32_next_suit
#print axioms Tie.getCardRank_mem
#print axioms Tie.nextSuit_mem
#print axioms Tie.create_graph
#print axioms Tie.u32_shift_suit
