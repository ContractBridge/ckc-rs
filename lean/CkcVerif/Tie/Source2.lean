import CkcVerif.Tie.Source
import CkcVerif.Tie.Containers
import CkcVerif.Props.C03
import CkcVerif.Props.C08
import CkcVerif.Props.C11
import CkcVerif.Props.C13
import CkcVerif.Props.C14
import CkcVerif.Props.C15
import CkcVerif.Props.C16
import CkcVerif.Props.C19
import CkcVerif.Props.C20
/-!
# The properties, stated about the translated source (continued)
-/
namespace Tie
open CK Spec

/-- C13 for the source: the predicates of `Five` on five distinct real cards -/
theorem C13_source {cs : List Card} (h : IsHand 5 cs) :
    Src.Five.is_flush (words cs) = some (sameSuit cs) ∧
    Src.Five.is_straight (words cs) = some (isStraightRanks (ranks cs)) ∧
    Src.Five.is_straight_flush (words cs) = some (isStraightRanks (ranks cs) && sameSuit cs) ∧
    Src.Five.is_wheel (words cs) = some (isWheelRanks (ranks cs)) := by
  have a := C13.C13_flush h; have b := C13.C13_straight h; have c := C13.C13_straight_flush h; have d := C13.C13_wheel h
  obtain ⟨c1, c2, c3, c4, c5, rfl⟩ := Lemmas.hand5_cases h
  exact ⟨(Five_is_flush _ _ _ _ _).trans (congrArg some a), (Five_is_straight _ _ _ _ _).trans (congrArg some b),
    (Five_is_straight_flush _ _ _ _ _).trans (congrArg some c), (Five_is_wheel _ _ _ _ _).trans (congrArg some d)⟩

/-- C08 for the source: the card-level suit shift -/
theorem C08_source :
    (∀ r < 13, ∀ s < 4, Src.u32.shift_suit (word r s) = some (word r (C08.nextSuitNo s))) ∧
    Src.u32.shift_suit 0 = some 0 ∧
    (∀ w ∈ 0 :: deckWords, ∃ a b c, Src.u32.shift_suit w = some a ∧ Src.u32.shift_suit a = some b ∧
        Src.u32.shift_suit b = some c ∧ Src.u32.shift_suit c = some w) := by
  obtain ⟨h1, h2, h3, _⟩ := C08.C08_shift_card
  refine ⟨fun r hr s hs => (u32_shift_suit _).trans (congrArg some (h1 r hr s hs)), (u32_shift_suit 0).trans (congrArg some h2), ?_⟩
  intro w hw
  exact ⟨_, _, _, u32_shift_suit w, u32_shift_suit _, u32_shift_suit _, (u32_shift_suit _).trans (congrArg some (h3 w hw))⟩

/-- C08 for the source: shifting a hand never changes its value -/
theorem C08_source_value {n : Nat} (hn : n = 5 ∨ n = 6 ∨ n = 7) {cs : List Card} (h : IsHand n cs) :
    srcValue (shiftSuitHand (words cs)) = srcValue (words cs) := by
  have hl := h.length_words
  have hl2 : (shiftSuitHand (words cs)).length = n := by rw [(C08.C08_container _).2, hl]
  rw [(srcValue_eq _ (by omega)).1, (srcValue_eq _ (by omega)).1]
  exact C08.C08_shift_value hn h

/-- C11 for the source: `sort` returns the non-increasing rearrangement, for every slot list of every size -/
theorem C11_source (ws : List Nat) :
    ∃ out, Src.Five.sort ws = some out ∧ Src.Six.sort ws = some out ∧ Src.Seven.sort ws = some out ∧
      Src.Two.sort ws = some out ∧ Src.Three.sort ws = some out ∧ Src.Four.sort ws = some out ∧
      Src.Five.sort_in_place ws = some out ∧
      out.Perm ws ∧ out.Pairwise (fun a b => a ≥ b) ∧ out.length = ws.length :=
  ⟨sortDesc ws, Five_sort ws, Six_sort ws, Seven_sort ws, Two_sort ws, Three_sort ws, Four_sort ws, Five_sort_in_place ws,
    C11.C11_sort_perm ws, C11.C11_sort_sorted ws, C11.C11_sort_length ws⟩

/-- C03 for the source: the reported hand of six / seven cards -/
theorem C03_source {cs : List Card} (h : IsHand 7 cs) :
    ∃ v hand best, Src.Seven.hand_rank_value_and_hand 14 (words cs) = some (v, hand) ∧
      best ∈ combos 5 cs ∧ hand.Perm (words best) ∧ hand.Pairwise (fun a b => a ≥ b) ∧
      handRankValue5 packed hand = some v := by
  obtain ⟨v, hand, best, e, hb, hp, _, _, _, hs, ev, _⟩ := C03.C03_witness (Or.inr rfl) h
  refine ⟨v, hand, best, ?_, hb, hp, hs, ev⟩
  rw [Seven_hand_rank_value_and_hand]
  simpa [handRankValueAndHand, h.length_words] using e

/-- C14 for the source: the two 52-arm matches are mutually inverse on the cards -/
theorem C14_source (c : Card) (h : c.ok) :
    Src.u64.from_ckc c.word = some (C14.cardBit c.deckIndex) ∧
    Src.u32.from_binary_card (C14.cardBit c.deckIndex) = some c.word := by
  obtain ⟨a, b⟩ := C14.C14_round_trip_card c h
  exact ⟨(u64_from_ckc _).trans (congrArg some a), (u32_from_binary_card _).trans (congrArg some (a ▸ b))⟩

/-- C15 for the source: `peel` removes and returns the highest card present -/
theorem C15_source (x : Nat) :
    ((Gen.bitDeck.filter (fun b => has x b) = []) ∧ Src.u64.peel x = some (0, x)) ∨
    (∃ b m, Gen.bitDeck.filter (fun b => has x b) = b :: m ∧ Src.u64.peel x = some (b, x ^^^ b)) := by
  rw [u64_peel]
  rcases C15.C15_peel x with ⟨h1, h2⟩ | ⟨b, m, h1, h2, _⟩
  · left; exact ⟨h1, by rw [h2]⟩
  · right; exact ⟨b, m, h1, by rw [h2]⟩

/-- C16 for the source: fewer / more than two bits -/
theorem C16_source (x : Nat) :
    (pc 64 x < 2 → Src.Two.try_from__2 x = some (Except.error 7)) ∧
    (pc 64 x > 2 → Src.Two.try_from__2 x = some (Except.error 8)) := by
  obtain ⟨a, b⟩ := C16.C16_counts x
  rw [Two_try_from__2]
  exact ⟨fun h => by rw [a h]; rfl, fun h => by rw [b h]; rfl⟩

/-- C19 for the source: a setter writes its own slot and nothing else -/
theorem C19_source (ws : List Nat) (x j : Nat) :
    ∃ out, Src.Seven.set_third ws x = some out ∧ out.length = ws.length ∧
      out[j]? = if j = 2 ∧ 2 < ws.length then some x else ws[j]? := by
  obtain ⟨a, b⟩ := C19.C19_setter ws 2 x j
  exact ⟨_, Seven_set_third ws x, a, b⟩

/-- C20 for the source: stripping undoes any combination of marks on a word below 2^29 -/
theorem C20_source (w : Nat) (hw : w < 2 ^ 29) :
    (∃ p, Src.u32.flag_as_pair w = some p ∧ Src.u32.strip_multiples_flags p = some w) ∧
    (∃ q, Src.u32.flag_as_quads w = some q ∧ Src.u32.strip_multiples_flags q = some w) := by
  have k := C20.C20_constants
  refine ⟨⟨_, u32_flag_as_pair w, ?_⟩, ⟨_, u32_flag_as_quads w, ?_⟩⟩
  · rw [u32_strip_multiples_flags]
    have := (C20.C20_any_word w hw 1 (by omega)).1
    simpa [flagAsPair, k.1] using this
  · rw [u32_strip_multiples_flags]
    have := (C20.C20_any_word w hw 4 (by omega)).1
    simpa [flagAsQuads, k.2.2.1] using this

end Tie

/-! ## axiom audit (written by tools/tie.py --audit) -/
#print axioms Tie.C13_source
#print axioms Tie.C08_source
#print axioms Tie.C08_source_value
#print axioms Tie.C11_source
#print axioms Tie.C03_source
#print axioms Tie.C14_source
#print axioms Tie.C15_source
#print axioms Tie.C16_source
#print axioms Tie.C19_source
#print axioms Tie.C20_source
