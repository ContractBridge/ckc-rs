import CkcVerif.Tie.Hand
import CkcVerif.Model.HandRank
import CkcVerif.Model.BitCard
import CkcVerif.Model.Two
import CkcVerif.Model.Containers
/-!
# Source tie: hand-rank comparison, 64-bit card sets, containers, two-card helpers
-/
namespace Tie
open CK

/-! ### `impl Ord for HandRank` (`src/hand_rank.rs`) -/
def toModel (r : Src.HandRank) : CK.HandRank := ⟨r.value, r.name, r.class_⟩

theorem c_nameInvalid : (9 : Nat) = Gen.nameInvalid := by decide

theorem HandRank_is_invalid (r : Src.HandRank) : Src.HandRank.is_invalid r = some ((toModel r).isInvalid) := by
  simp only [Src.HandRank.is_invalid, HandRank.isInvalid, toModel, ← c_nameInvalid]

theorem HandRank_cmp (a b : Src.HandRank) : Src.HandRank.cmp a b = some ((toModel a).cmp (toModel b)) := by
  simp only [Src.HandRank.cmp, HandRank_is_invalid, Option.bind_some, and_then, HandRank.cmp, apply_ite some,
    decide_eq_true_eq]
  rfl

/-! ### 64-bit card sets (`src/cards/binary_card.rs`) -/
theorem c_bc : Src.BC64.BLANK = Gen.bcBlank ∧ Src.BC64.OVERFLOW = Gen.bcOverflow ∧ Src.BC64.DECK = Gen.bitDeck := by decide

theorem u64_fold_in (x bc : Nat) : Src.u64.fold_in x bc = some (foldIn x bc) := rfl
theorem u64_has (x c : Nat) : Src.u64.has x c = some (has x c) := rfl
theorem u64_number_of_cards (x : Nat) : Src.u64.number_of_cards x = some (numberOfCards x) := rfl
theorem u64_is_single_card (x : Nat) : Src.u64.is_single_card x = some (isSingleCard x) := rfl
theorem u64_is_valid (x : Nat) : Src.u64.is_valid x = some (bcIsValid x) := by
  simp only [Src.u64.is_valid, Src.u64.as_u64, u64_number_of_cards, Option.bind_some, and_then, bcIsValid, c_bc.1, c_bc.2.1]

/-- the translated `for bc in DECK` loop of `peel` is `find?` over the deck -/
theorem peel_loop : ∀ (deck : List Nat) (x : Nat),
    (Option.bind (Src.forList (ρ := (Nat × Nat)) deck x fun self_ bc =>
        if ((self_ &&& bc) == bc) then
          let self_ := (self_ ^^^ bc)
          some (Src.Ctl.ret (bc, self_))
        else
          some (Src.Ctl.next self_)) fun r1_ =>
      match r1_ with
      | Src.Out.ret v2_ => some v2_
      | Src.Out.done self_ => some (Src.BC64.BLANK, self_))
    = some ((peelWith deck x).2, (peelWith deck x).1) := by
  intro deck
  induction deck with
  | nil => intro x; simp [Src.forList, peelWith, Option.bind, c_bc.1]
  | cons b bs ih =>
    intro x
    unfold Src.forList
    by_cases h : ((x &&& b) == b) = true
    · simp [h, peelWith, has, Option.bind]
    · have h' : ((x &&& b) == b) = false := by simpa using h
      simp only [h', Bool.false_eq_true, if_false]
      rw [ih x]
      simp [peelWith, has, h', List.find?]

theorem u64_peel (x : Nat) : Src.u64.peel x = some ((peel x).2, (peel x).1) := by
  unfold Src.u64.peel peel
  rw [c_bc.2.2]
  exact peel_loop Gen.bitDeck x

/-- only `from_ckc` is not computation: once it is rewritten under the binders both sides evaluate to the same term -/
theorem u64_from_two (a b : Nat) : Src.u64.from_two [a, b] = some (bcFromHand [a, b]) := by
  simp only [Src.u64.from_two, u64_from_ckc, bcFromHand, List.foldl, Nat.zero_or]; rfl
theorem u64_from_three (a b c : Nat) : Src.u64.from_three [a, b, c] = some (bcFromHand [a, b, c]) := by
  simp only [Src.u64.from_three, u64_from_ckc, bcFromHand, List.foldl, Nat.zero_or]; rfl
theorem u64_from_four (a b c d : Nat) : Src.u64.from_four [a, b, c, d] = some (bcFromHand [a, b, c, d]) := by
  simp only [Src.u64.from_four, u64_from_ckc, bcFromHand, List.foldl, Nat.zero_or]; rfl
theorem u64_from_five (a b c d e : Nat) : Src.u64.from_five [a, b, c, d, e] = some (bcFromHand [a, b, c, d, e]) := by
  simp only [Src.u64.from_five, u64_from_ckc, bcFromHand, List.foldl, Nat.zero_or]; rfl
theorem u64_from_six (a b c d e f : Nat) : Src.u64.from_six [a, b, c, d, e, f] = some (bcFromHand [a, b, c, d, e, f]) := by
  simp only [Src.u64.from_six, u64_from_ckc, bcFromHand, List.foldl, Nat.zero_or]; rfl
theorem u64_from_seven (a b c d e f g : Nat) :
    Src.u64.from_seven [a, b, c, d, e, f, g] = some (bcFromHand [a, b, c, d, e, f, g]) := by
  simp only [Src.u64.from_seven, u64_from_ckc, bcFromHand, List.foldl, Nat.zero_or]; rfl

/-! ### suit shift of the containers -/
theorem Two_shift_suit (a b : Nat) : Src.Two.shift_suit [a, b] = some (shiftSuitHand [a, b]) := by
  simp only [Src.Two.shift_suit, u32_shift_suit]; rfl
theorem Three_shift_suit (a b c : Nat) : Src.Three.shift_suit [a, b, c] = some (shiftSuitHand [a, b, c]) := by
  simp only [Src.Three.shift_suit, u32_shift_suit]; rfl
theorem Four_shift_suit (a b c d : Nat) : Src.Four.shift_suit [a, b, c, d] = some (shiftSuitHand [a, b, c, d]) := by
  simp only [Src.Four.shift_suit, u32_shift_suit]; rfl
theorem Five_shift_suit (a b c d e : Nat) : Src.Five.shift_suit [a, b, c, d, e] = some (shiftSuitHand [a, b, c, d, e]) := by
  simp only [Src.Five.shift_suit, u32_shift_suit]; rfl
theorem Six_shift_suit (a b c d e f : Nat) :
    Src.Six.shift_suit [a, b, c, d, e, f] = some (shiftSuitHand [a, b, c, d, e, f]) := by
  simp only [Src.Six.shift_suit, u32_shift_suit]; rfl
theorem Seven_shift_suit (a b c d e f g : Nat) :
    Src.Seven.shift_suit [a, b, c, d, e, f, g] = some (shiftSuitHand [a, b, c, d, e, f, g]) := by
  simp only [Src.Seven.shift_suit, u32_shift_suit]; rfl

/-! ### small validators and two-card helpers -/
theorem Two_are_unique (a b : Nat) : Src.Two.are_unique [a, b] = some (areUnique [a, b]) := rfl
theorem Three_are_unique (a b c : Nat) : Src.Three.are_unique [a, b, c] = some (areUnique [a, b, c]) := by
  simp only [Src.Three.are_unique, Src.Three.first, Src.Three.second, Src.Three.third, Option.bind_some, and_then, areUnique,
    List.getD_cons_zero, List.getD_cons_succ, Option.bind_fun_some]
theorem Four_are_unique (a b c d : Nat) : Src.Four.are_unique [a, b, c, d] = some (areUnique [a, b, c, d]) := by
  simp only [Src.Four.are_unique, Src.Four.first, Src.Four.second, Src.Four.third, Src.Four.forth, Option.bind_some, and_then,
    areUnique, List.getD_cons_zero, List.getD_cons_succ, Option.bind_fun_some]
theorem Two_is_valid (a b : Nat) : Src.Two.is_valid [a, b] = some (isValid [a, b]) :=
  is_valid_of (Two_are_unique a b) (Two_is_corrupt _)
theorem Two_high_card (a b : Nat) : Src.Two.high_card [a, b] = some (highCard a b) := rfl
theorem Two_is_pocket_pair (a b : Nat) : Src.Two.is_pocket_pair [a, b] = some (isPocketPair a b) := by
  simp only [Src.Two.is_pocket_pair, u32_get_card_rank]; rfl
theorem Two_is_suited (a b : Nat) : Src.Two.is_suited [a, b] = some (isSuited a b) := by
  simp only [Src.Two.is_suited, u32_get_card_suit]; rfl

/-! ### containers: constructors, accessors, setters -/
theorem Six_from_1_and_2_and_3 (o a b c d e : Nat) :
    Src.Six.from_1_and_2_and_3 o [a, b] [c, d, e] = some (six123 o [a, b] [c, d, e]) := rfl
theorem Seven_new (a b c d e f g : Nat) : Src.Seven.new [a, b] [c, d, e, f, g] = some (sevenNew [a, b] [c, d, e, f, g]) := rfl
theorem Five_set_third (ws : List Nat) (x : Nat) : Src.Five.set_third ws x = some (applyOp ws (.set 2 x)) := rfl
theorem Seven_set_seventh (ws : List Nat) (x : Nat) : Src.Seven.set_seventh ws x = some (applyOp ws (.set 6 x)) := rfl

end Tie

/-! ## axiom audit (written by tools/tie.py --audit) -/
#print axioms Tie.c_nameInvalid
#print axioms Tie.HandRank_is_invalid
#print axioms Tie.HandRank_cmp
#print axioms Tie.c_bc
#print axioms Tie.u64_fold_in
#print axioms Tie.u64_has
#print axioms Tie.u64_number_of_cards
#print axioms Tie.u64_is_single_card
#print axioms Tie.u64_is_valid
#print axioms Tie.peel_loop
#print axioms Tie.u64_peel
#print axioms Tie.u64_from_two
#print axioms Tie.u64_from_three
#print axioms Tie.u64_from_four
#print axioms Tie.u64_from_five
#print axioms Tie.u64_from_six
#print axioms Tie.u64_from_seven
#print axioms Tie.Two_shift_suit
#print axioms Tie.Three_shift_suit
#print axioms Tie.Four_shift_suit
#print axioms Tie.Five_shift_suit
#print axioms Tie.Six_shift_suit
#print axioms Tie.Seven_shift_suit
#print axioms Tie.Two_are_unique
#print axioms Tie.Three_are_unique
#print axioms Tie.Four_are_unique
#print axioms Tie.Two_is_valid
#print axioms Tie.Two_high_card
#print axioms Tie.Two_is_pocket_pair
#print axioms Tie.Two_is_suited
#print axioms Tie.Six_from_1_and_2_and_3
#print axioms Tie.Seven_new
#print axioms Tie.Five_set_third
#print axioms Tie.Seven_set_seventh
