import CkcVerif.Tie.Hand
import CkcVerif.Model.SixSeven
/-!
# Source tie: `Six` / `Seven` best-of-five ranking (`src/cards/six.rs`, `src/cards/seven.rs`)
-/
namespace Tie
open CK

theorem perms_eq : Src.Six.FIVE_CARD_PERMUTATIONS = Gen.perms6 ∧ Src.Seven.FIVE_CARD_PERMUTATIONS = Gen.perms7 := by decide

/-- five bounds-checked slot reads, as translated -/
theorem pick_eq (ws : List Nat) (i0 i1 i2 i3 i4 : Nat) :
    (Option.bind (ws[([i0, i1, i2, i3, i4].getD 0 default)]?) fun t1_ =>
     Option.bind (ws[([i0, i1, i2, i3, i4].getD 1 default)]?) fun t2_ =>
     Option.bind (ws[([i0, i1, i2, i3, i4].getD 2 default)]?) fun t3_ =>
     Option.bind (ws[([i0, i1, i2, i3, i4].getD 3 default)]?) fun t4_ =>
     Option.bind (ws[([i0, i1, i2, i3, i4].getD 4 default)]?) fun t5_ =>
     Option.bind (Src.Five.new t1_ t2_ t3_ t4_ t5_) fun t6_ => some t6_) = pick ws [i0, i1, i2, i3, i4] := by
  simp only [List.getD_cons_zero, List.getD_cons_succ, pick, Src.Five.new, Option.bind]
  cases ws[i0]? <;> cases ws[i1]? <;> cases ws[i2]? <;> cases ws[i3]? <;> cases ws[i4]? <;> rfl

theorem Six_five_from_permutation (ws : List Nat) (i0 i1 i2 i3 i4 : Nat) :
    Src.Six.five_from_permutation ws [i0, i1, i2, i3, i4] = pick ws [i0, i1, i2, i3, i4] := pick_eq ws i0 i1 i2 i3 i4
theorem Seven_five_from_permutation (ws : List Nat) (i0 i1 i2 i3 i4 : Nat) :
    Src.Seven.five_from_permutation ws [i0, i1, i2, i3, i4] = pick ws [i0, i1, i2, i3, i4] := pick_eq ws i0 i1 i2 i3 i4

theorem pick_rows {pickf : List Nat → List Nat → Option (List Nat)} {ws : List Nat} {perms : List (List Nat)}
    (hf : ∀ i0 i1 i2 i3 i4, pickf ws [i0, i1, i2, i3, i4] = pick ws [i0, i1, i2, i3, i4])
    (hl : ∀ row ∈ perms, row.length = 5) : ∀ row ∈ perms, pickf ws row = pick ws row := by
  intro row hrow
  match row, hl row hrow with
  | [i0, i1, i2, i3, i4], _ => exact hf ..

theorem pick_shape (ws row h : List Nat) (hp : pick ws row = some h) : ∃ a b c d e, h = [a, b, c, d, e] := by
  unfold pick at hp
  split at hp
  · split at hp
    · cases hp; exact ⟨_, _, _, _, _, rfl⟩
    · cases hp
  · cases hp

theorem foldl_stepBest_none (ws : List Nat) (perms : List (List Nat)) : perms.foldl (stepBest packed ws) none = none := by
  induction perms with
  | nil => rfl
  | cons r rs ih => simpa [List.foldl, stepBest] using ih

/-- the translated best-of loop is the fold of `stepBest` -/
theorem best_loop (pickf : List Nat → List Nat → Option (List Nat)) (ws : List Nat) :
    ∀ (perms : List (List Nat)) (_ : ∀ row ∈ perms, pickf ws row = pick ws row) (bh : List Nat) (bv : Nat),
    (Src.forList (ρ := Empty) perms (bh, bv) fun (best_hand, best_hrv) perm =>
      Option.bind (pickf ws perm) fun t1_ =>
      let hand := t1_
      Option.bind (Src.Five.hand_rank_value 14 hand) fun t2_ =>
      let hrv := t2_
      if ((best_hrv == 0) || ((hrv != 0) && (decide (hrv < best_hrv)))) then
        let best_hrv := hrv
        let best_hand := hand
        some (Src.Ctl.next (best_hand, best_hrv))
      else
        some (Src.Ctl.next (best_hand, best_hrv)))
    = (match perms.foldl (stepBest packed ws) (some (bv, bh)) with
       | none => none
       | some (v, h) => some (Src.Out.done (h, v))) := by
  intro perms
  induction perms with
  | nil => intro _ bh bv; rfl
  | cons row rows ih =>
    intro hrow bh bv
    have hr := hrow row (List.mem_cons_self ..)
    have hrest : ∀ r ∈ rows, pickf ws r = pick ws r := fun r hm => hrow r (List.mem_cons_of_mem _ hm)
    unfold Src.forList
    simp only [List.foldl, hr]
    cases hp : pick ws row with
    | none => simp [Option.bind, stepBest, hp, foldl_stepBest_none]
    | some hand =>
      obtain ⟨a, b, c, d, e, rfl⟩ := pick_shape ws row hand hp
      simp only [Option.bind, Five_hand_rank_value, stepBest, hp]
      cases hv : handRankValue5 packed [a, b, c, d, e] with
      | none => simp [foldl_stepBest_none]
      | some hrv =>
        simp only
        by_cases hc : ((bv == 0) || ((hrv != 0) && (decide (hrv < bv)))) = true
        · simp only [hc, if_true]
          exact ih hrest _ _
        · simp only [hc, Bool.false_eq_true, if_false]
          exact ih hrest _ _

theorem Six_hand_rank_value_and_hand (ws : List Nat) :
    Src.Six.hand_rank_value_and_hand 14 ws = handRankValueAndHand6 packed ws := by
  unfold Src.Six.hand_rank_value_and_hand handRankValueAndHand6 handRankValueAndHandN
  simp only [perms_eq.1, List.reduceReplicate]
  rw [best_loop _ ws _ (pick_rows (Six_five_from_permutation ws) (by decide))]
  cases Gen.perms6.foldl (stepBest packed ws) (some (0, [0, 0, 0, 0, 0])) with
  | none => rfl
  | some p => simp only [Option.bind, Five_sort]

theorem Seven_hand_rank_value_and_hand (ws : List Nat) :
    Src.Seven.hand_rank_value_and_hand 14 ws = handRankValueAndHand7 packed ws := by
  unfold Src.Seven.hand_rank_value_and_hand handRankValueAndHand7 handRankValueAndHandN
  simp only [perms_eq.2, List.reduceReplicate]
  rw [best_loop _ ws _ (pick_rows (Seven_five_from_permutation ws) (by decide))]
  cases Gen.perms7.foldl (stepBest packed ws) (some (0, [0, 0, 0, 0, 0])) with
  | none => rfl
  | some p => simp only [Option.bind, Five_sort]

theorem value_of {r m : Option (Nat × List Nat)} (h : r = m) :
    (Option.bind r fun t1_ => match t1_ with | (hrv, _) => some hrv) = m.map (·.1) := by
  subst h; cases r <;> rfl

theorem Six_hand_rank_value (a b c d e f : Nat) :
    Src.Six.hand_rank_value 14 [a, b, c, d, e, f] = handRankValue packed [a, b, c, d, e, f] :=
  value_of (Six_hand_rank_value_and_hand _)
theorem Seven_hand_rank_value (a b c d e f g : Nat) :
    Src.Seven.hand_rank_value 14 [a, b, c, d, e, f, g] = handRankValue packed [a, b, c, d, e, f, g] :=
  value_of (Seven_hand_rank_value_and_hand _)

theorem Six_hand_rank_value_validated (a b c d e f : Nat) :
    Src.Six.hand_rank_value_validated 14 [a, b, c, d, e, f] = handRankValueValidated packed [a, b, c, d, e, f] :=
  validated_of (Six_is_valid a b c d e f) (Six_hand_rank_value a b c d e f)
theorem Seven_hand_rank_value_validated (a b c d e f g : Nat) :
    Src.Seven.hand_rank_value_validated 14 [a, b, c, d, e, f, g] = handRankValueValidated packed [a, b, c, d, e, f, g] :=
  validated_of (Seven_is_valid a b c d e f g) (Seven_hand_rank_value a b c d e f g)

end Tie

/-! ## axiom audit (written by tools/tie.py --audit) -/
#print axioms Tie.perms_eq
#print axioms Tie.pick_eq
#print axioms Tie.Six_five_from_permutation
#print axioms Tie.Seven_five_from_permutation
#print axioms Tie.pick_rows
#print axioms Tie.pick_shape
#print axioms Tie.foldl_stepBest_none
#print axioms Tie.best_loop
#print axioms Tie.Six_hand_rank_value_and_hand
#print axioms Tie.Seven_hand_rank_value_and_hand
#print axioms Tie.value_of
#print axioms Tie.Six_hand_rank_value
#print axioms Tie.Seven_hand_rank_value
#print axioms Tie.Six_hand_rank_value_validated
#print axioms Tie.Seven_hand_rank_value_validated
