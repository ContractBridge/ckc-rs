import CkcVerif.Tie.Five
import CkcVerif.Tie.Card
/-!
# Source tie: validators, sorting, validated ranking (`src/cards/mod.rs`, `five.rs`, `six.rs`, `seven.rs`)
-/
namespace Tie
open CK

/-- `any` with a closure that does not panic on the elements it is given -/
theorem anyM_congr {α : Type} {l : List α} {f : α → Option Bool} {g : α → Bool} (h : ∀ x ∈ l, f x = some (g x)) :
    Src.anyM l f = some (l.any g) := by
  induction l with
  | nil => rfl
  | cons x xs ih =>
    simp only [Src.anyM, List.any_cons, h x (List.mem_cons_self ..), ih fun y hy => h y (List.mem_cons_of_mem _ hy)]
    cases g x <;> rfl

/-- slot `i - 1` is looked for in the slots from `i` on, for `i` = 1 … 4 -/
theorem Five_are_unique (a b c d e : Nat) :
    Src.Five.are_unique [a, b, c, d, e] = some (areUnique [a, b, c, d, e]) := by
  rw [Src.Five.are_unique, anyM_congr (g := fun i => ([a, b, c, d, e].drop i).contains ([a, b, c, d, e].getD (i - 1) 0))]
  · simp [areUnique, List.range', Bool.or_assoc]
  · intro i hi
    simp only [List.range', List.mem_cons, List.not_mem_nil, or_false] at hi
    rcases hi with rfl | rfl | rfl | rfl <;> rfl

/-- `is_corrupt`, any size -/
theorem is_corrupt_any (ws : List Nat) :
    (Option.bind (Src.anyM ws fun c => Option.bind (Src.CardNumber.filter c) fun t1_ => some (t1_ == Src.CardNumber.BLANK))
      fun t2_ => some t2_) = some (isCorrupt ws) := by
  rw [anyM_congr (g := fun c => filter c == Gen.blank) fun c _ => by rw [CardNumber_filter, c_BLANK]; rfl]; rfl

theorem Five_is_corrupt (ws : List Nat) : Src.Five.is_corrupt ws = some (isCorrupt ws) := is_corrupt_any ws
theorem Six_is_corrupt (ws : List Nat) : Src.Six.is_corrupt ws = some (isCorrupt ws) := is_corrupt_any ws
theorem Seven_is_corrupt (ws : List Nat) : Src.Seven.is_corrupt ws = some (isCorrupt ws) := is_corrupt_any ws
theorem Two_is_corrupt (ws : List Nat) : Src.Two.is_corrupt ws = some (isCorrupt ws) := is_corrupt_any ws
theorem Three_is_corrupt (ws : List Nat) : Src.Three.is_corrupt ws = some (isCorrupt ws) := is_corrupt_any ws
theorem Four_is_corrupt (ws : List Nat) : Src.Four.is_corrupt ws = some (isCorrupt ws) := is_corrupt_any ws

theorem contain_blank_any (ws : List Nat) :
    (Option.bind (Src.anyM ws fun c => some (c == Src.CardNumber.BLANK)) fun t1_ => some t1_) = some (containBlank ws) := by
  rw [anyM_congr (g := (· == Gen.blank)) fun c _ => by rw [c_BLANK]]; rfl
theorem Five_contain_blank (ws : List Nat) : Src.Five.contain_blank ws = some (containBlank ws) := contain_blank_any ws
theorem Six_contain_blank (ws : List Nat) : Src.Six.contain_blank ws = some (containBlank ws) := contain_blank_any ws
theorem Seven_contain_blank (ws : List Nat) : Src.Seven.contain_blank ws = some (containBlank ws) := contain_blank_any ws

theorem sortAsc_reverse (ws : List Nat) : List.reverse (Src.sortAsc ws) = sortDesc ws := by
  simp [Src.sortAsc]

theorem Five_sort_in_place (ws : List Nat) : Src.Five.sort_in_place ws = some (sortDesc ws) := by
  simp only [Src.Five.sort_in_place, sortAsc_reverse]
theorem Five_sort (ws : List Nat) : Src.Five.sort ws = some (sortDesc ws) := by
  simp only [Src.Five.sort, Five_sort_in_place, Option.bind]
theorem Six_sort (ws : List Nat) : Src.Six.sort ws = some (sortDesc ws) := by
  simp only [Src.Six.sort, Src.Six.sort_in_place, sortAsc_reverse, Option.bind]
theorem Seven_sort (ws : List Nat) : Src.Seven.sort ws = some (sortDesc ws) := by
  simp only [Src.Seven.sort, Src.Seven.sort_in_place, sortAsc_reverse, Option.bind]
theorem Two_sort (ws : List Nat) : Src.Two.sort ws = some (sortDesc ws) := by
  simp only [Src.Two.sort, Src.Two.sort_in_place, sortAsc_reverse, Option.bind]
theorem Three_sort (ws : List Nat) : Src.Three.sort ws = some (sortDesc ws) := by
  simp only [Src.Three.sort, Src.Three.sort_in_place, sortAsc_reverse, Option.bind]
theorem Four_sort (ws : List Nat) : Src.Four.sort ws = some (sortDesc ws) := by
  simp only [Src.Four.sort, Src.Four.sort_in_place, sortAsc_reverse, Option.bind]

/-- the duplicate scan of `Six` / `Seven::are_unique` over the sorted copy -/
theorem scan_loop : ∀ (l : List Nat) (last : Nat),
    (Option.bind (Src.forList (ρ := Bool) l last fun last c =>
        if (decide (c ≥ last)) then some (Src.Ctl.ret false)
        else
          let last := c
          some (Src.Ctl.next last)) fun r2_ =>
      match r2_ with
      | Src.Out.ret v3_ => some v3_
      | Src.Out.done last => some true) = some (scan last l) := by
  intro l
  induction l with
  | nil => intro last; rfl
  | cons c cs ih =>
    intro last
    unfold Src.forList scan
    by_cases h : c ≥ last
    · simp [h]
    · simp only [h, decide_false, Bool.false_eq_true, if_false]
      exact ih c

theorem Six_are_unique (a b c d e f : Nat) :
    Src.Six.are_unique [a, b, c, d, e, f] = some (areUnique [a, b, c, d, e, f]) := by
  simp only [Src.Six.are_unique, Six_sort, Option.bind]
  exact scan_loop _ _
theorem Seven_are_unique (a b c d e f g : Nat) :
    Src.Seven.are_unique [a, b, c, d, e, f, g] = some (areUnique [a, b, c, d, e, f, g]) := by
  simp only [Src.Seven.are_unique, Seven_sort, Option.bind]
  exact scan_loop _ _

theorem is_valid_of {u c : Option Bool} {ws : List Nat} (hu : u = some (areUnique ws)) (hc : c = some (isCorrupt ws)) :
    (Option.bind u fun t1_ => Option.bind (if t1_ then Option.bind c fun t3_ => some (!t3_) else some false) fun t2_ =>
      some t2_) = some (isValid ws) := by
  simp only [hu, hc, Option.bind_some, and_then, isValid]

theorem Five_is_valid (a b c d e : Nat) : Src.Five.is_valid [a, b, c, d, e] = some (isValid [a, b, c, d, e]) :=
  is_valid_of (Five_are_unique a b c d e) (Five_is_corrupt _)
theorem Six_is_valid (a b c d e f : Nat) :
    Src.Six.is_valid [a, b, c, d, e, f] = some (isValid [a, b, c, d, e, f]) :=
  is_valid_of (Six_are_unique a b c d e f) (Six_is_corrupt _)
theorem Seven_is_valid (a b c d e f g : Nat) :
    Src.Seven.is_valid [a, b, c, d, e, f, g] = some (isValid [a, b, c, d, e, f, g]) :=
  is_valid_of (Seven_are_unique a b c d e f g) (Seven_is_corrupt _)

/-- `hand_rank_value_validated` of `Five`, `Six`, `Seven`: the blank value unless the slots hold distinct cards -/
theorem validated_of {v : Option Bool} {r m : Option Nat} {ws : List Nat} (hv : v = some (isValid ws)) (hr : r = m) :
    (Option.bind v fun t1_ => if !t1_ then some Src.hand_rank.NO_HAND_RANK_VALUE else Option.bind r fun t2_ => some t2_)
      = if !isValid ws then some Gen.noHandRankValue else m := by
  simp only [hv, hr, Option.bind_some, c_NO_HRV, Option.bind_fun_some]

theorem Five_hand_rank_value_validated (a b c d e : Nat) :
    Src.Five.hand_rank_value_validated 14 [a, b, c, d, e] = handRankValueValidated5 packed [a, b, c, d, e] :=
  validated_of (Five_is_valid a b c d e) (Five_hand_rank_value a b c d e)

theorem evaluate_five_cards (a b c d e : Nat) :
    Src.evaluate.five_cards 14 [a, b, c, d, e] = fiveCards packed [a, b, c, d, e] := by
  simp only [Src.evaluate.five_cards, Src.Five.from, Five_hand_rank_value_validated, Option.bind_some, Option.bind_fun_some,
    fiveCards]
theorem evaluate_is_flush (a b c d e : Nat) :
    Src.evaluate.is_flush [a, b, c, d, e] = some (evaluateIsFlush [a, b, c, d, e]) := rfl
theorem evaluate_or_rank_bits (a b c d e : Nat) :
    Src.evaluate.or_rank_bits [a, b, c, d, e] = some (evaluateOrRankBits [a, b, c, d, e]) := rfl

end Tie

/-! ## axiom audit (written by tools/tie.py --audit) -/
#print axioms Tie.anyM_congr
#print axioms Tie.Five_are_unique
#print axioms Tie.is_corrupt_any
#print axioms Tie.Five_is_corrupt
#print axioms Tie.Six_is_corrupt
#print axioms Tie.Seven_is_corrupt
#print axioms Tie.Two_is_corrupt
#print axioms Tie.Three_is_corrupt
#print axioms Tie.Four_is_corrupt
#print axioms Tie.contain_blank_any
#print axioms Tie.Five_contain_blank
#print axioms Tie.Six_contain_blank
#print axioms Tie.Seven_contain_blank
#print axioms Tie.sortAsc_reverse
#print axioms Tie.Five_sort_in_place
#print axioms Tie.Five_sort
#print axioms Tie.Six_sort
#print axioms Tie.Seven_sort
#print axioms Tie.Two_sort
#print axioms Tie.Three_sort
#print axioms Tie.Four_sort
#print axioms Tie.scan_loop
#print axioms Tie.Six_are_unique
#print axioms Tie.Seven_are_unique
#print axioms Tie.is_valid_of
#print axioms Tie.Five_is_valid
#print axioms Tie.Six_is_valid
#print axioms Tie.Seven_is_valid
#print axioms Tie.validated_of
#print axioms Tie.Five_hand_rank_value_validated
#print axioms Tie.evaluate_five_cards
#print axioms Tie.evaluate_is_flush
#print axioms Tie.evaluate_or_rank_bits
