import CkcVerif.Tie.SixSeven
import CkcVerif.Tie.Misc
import CkcVerif.Model.HandRank
/-!
# Source tie: `HandRank::determine_name`, `determine_class`, `from`, and the `hand_rank()` entry points

The model's `determineName` / `determineClass` are the complete graphs of the compiled functions over all 65,536
values.  Here the *text* of the two range matches (11 and 310 arms) is shown to denote the same functions, for every `Nat`.
-/
namespace Tie
open CK

/-- first-match semantics of a range table against a function `g` -/
theorem matchRanges_eq (g : Nat → Nat) (d x : Nat) : ∀ (rows : List (Nat × Nat × Nat)),
    (∀ r ∈ rows, r.1 ≤ x → x ≤ r.2.1 → g x = r.2.2) →
    ((∀ r ∈ rows, ¬ (r.1 ≤ x ∧ x ≤ r.2.1)) → g x = d) →
    Src.matchRanges rows d x = g x := by
  intro rows
  induction rows with
  | nil => intro _ h2; exact (h2 (by simp)).symm
  | cons r rs ih =>
    obtain ⟨lo, hi, v⟩ := r
    intro h1 h2
    unfold Src.matchRanges
    split
    · rename_i hx; exact (h1 _ (List.mem_cons_self ..) hx.1 hx.2).symm
    · rename_i hx
      exact ih (fun r hr => h1 r (List.mem_cons_of_mem _ hr)) fun hn => h2 (List.forall_mem_cons.mpr ⟨hx, hn⟩)

/-- the rows tile `[s, e)` without gaps -/
def contig : List (Nat × Nat × Nat) → Nat → Option Nat
  | [], s => some s
  | (lo, hi, _) :: rest, s => if lo = s ∧ lo ≤ hi then contig rest (hi + 1) else none

theorem contig_cover : ∀ (rows : List (Nat × Nat × Nat)) (s e x : Nat), contig rows s = some e → s ≤ x → x < e →
    ∃ r ∈ rows, r.1 ≤ x ∧ x ≤ r.2.1 := by
  intro rows
  induction rows with
  | nil => intro s e x h hs he; simp [contig] at h; omega
  | cons r rs ih =>
    obtain ⟨lo, hi, v⟩ := r
    intro s e x h hs he
    unfold contig at h
    split at h
    · rename_i hc
      by_cases hx : x ≤ hi
      · exact ⟨(lo, hi, v), List.mem_cons_self .., by omega, hx⟩
      · obtain ⟨r, hr, hb⟩ := ih (hi + 1) e x h (by omega) he
        exact ⟨r, List.mem_cons_of_mem _ hr, hb⟩
    · cases h

/-- every cell of every row agrees with `g` -/
def rowsChk (rows : List (Nat × Nat × Nat)) (g : Nat → Nat) : Bool :=
  rows.all fun r => (List.range' r.1 (r.2.1 + 1 - r.1)).all fun x => g x == r.2.2

theorem rowsChk_spec {rows : List (Nat × Nat × Nat)} {g : Nat → Nat} (h : rowsChk rows g = true) :
    ∀ r ∈ rows, ∀ x, r.1 ≤ x → x ≤ r.2.1 → g x = r.2.2 := by
  intro r hr x h1 h2
  have := List.all_eq_true.mp h r hr
  have := List.all_eq_true.mp this x (by rw [List.mem_range']; exact ⟨x - r.1, by omega, by omega⟩)
  simpa using this

/-- a range table that tiles `[1, 7463)`, agrees with the graph on every cell, and whose default is the graph's value
    at 0 and from 7463 on, is the graph -/
theorem ranges_are_graph (rows : List (Nat × Nat × Nat)) (d : Nat) (g : Nat → Nat)
    (hc : contig rows 1 = some 7463) (hk : rowsChk rows g = true) (h0 : g 0 = d) (ht : ∀ x, 7463 ≤ x → g x = d) (x : Nat) :
    Src.matchRanges rows d x = g x := by
  apply matchRanges_eq
  · intro r hr h1 h2; exact rowsChk_spec hk r hr x h1 h2
  · intro hn
    by_cases hx0 : x = 0
    · rw [hx0]; exact h0
    · by_cases hx : x < 7463
      · obtain ⟨r, hr, hb⟩ := contig_cover rows 1 7463 x hc (by omega) hx
        exact absurd hb (hn r hr)
      · exact ht x (by omega)

theorem name_tail (x : Nat) (h : 7463 ≤ x) : determineName x = 9 := if_neg (Nat.not_lt.mpr h)
theorem class_tail (x : Nat) (h : 7463 ≤ x) : determineClass x = 309 := if_neg (Nat.not_lt.mpr h)

theorem HandRank_determine_name (v : Nat) : Src.HandRank.determine_name v = some (determineName v) := by
  unfold Src.HandRank.determine_name
  exact congrArg some (ranges_are_graph _ _ determineName (by decide +kernel) (by decide +kernel) (by decide +kernel) name_tail v)

theorem HandRank_determine_class (v : Nat) : Src.HandRank.determine_class v = some (determineClass v) := by
  unfold Src.HandRank.determine_class
  exact congrArg some (ranges_are_graph _ _ determineClass (by decide +kernel) (by decide +kernel) (by decide +kernel) class_tail v)

theorem HandRank_from (v : Nat) : (Src.HandRank.from v).map toModel = some (HandRank.ofValue v) := by
  simp only [Src.HandRank.from, HandRank_determine_name, HandRank_determine_class, Option.bind, Option.map, toModel,
    HandRank.ofValue]

theorem HandRank_default : (Src.HandRank.default).map toModel = some HandRank.default := by
  simp only [Src.HandRank.default]
  exact HandRank_from 0

theorem toModel_inj (a b : Src.HandRank) : toModel a = toModel b ↔ a = b :=
  ⟨fun h => by cases a; cases b; cases h; rfl, fun h => h ▸ rfl⟩

theorem from_some (v : Nat) : ∃ r, Src.HandRank.from v = some r ∧ toModel r = HandRank.ofValue v :=
  Option.map_eq_some_iff.mp (HandRank_from v)

theorem HandRank_is_a_valid_hand_rank (r : Src.HandRank) :
    Src.HandRank.is_a_valid_hand_rank r = some ((toModel r).isAValidHandRank) := by
  obtain ⟨q, hq, hm⟩ := from_some r.value
  simp only [Src.HandRank.is_a_valid_hand_rank, hq, Option.bind, HandRank.isAValidHandRank]
  rw [show (toModel r).value = r.value from rfl, ← hm]
  exact congrArg some (Bool.eq_iff_iff.mpr (by simp [toModel_inj]))

/-- `hand_rank()` / `hand_rank_validated()` of every container: `HandRank::from` of the value -/
theorem hand_rank_of (o : Option Nat) :
    (Option.bind o fun v => Option.bind (Src.HandRank.from v) fun r => some r).map toModel = o.map HandRank.ofValue := by
  cases o with
  | none => rfl
  | some v => obtain ⟨q, hq, hm⟩ := from_some v; simp [Option.bind, hq, hm]

theorem Five_hand_rank (a b c d e : Nat) :
    (Src.Five.hand_rank 14 [a, b, c, d, e]).map toModel = (handRankValue5 packed [a, b, c, d, e]).map HandRank.ofValue :=
  Five_hand_rank_value a b c d e ▸ hand_rank_of _
theorem Seven_hand_rank (a b c d e f g : Nat) :
    (Src.Seven.hand_rank 14 [a, b, c, d, e, f, g]).map toModel
      = (handRankValue packed [a, b, c, d, e, f, g]).map HandRank.ofValue :=
  Seven_hand_rank_value a b c d e f g ▸ hand_rank_of _
theorem Six_hand_rank (a b c d e f : Nat) :
    (Src.Six.hand_rank 14 [a, b, c, d, e, f]).map toModel = (handRankValue packed [a, b, c, d, e, f]).map HandRank.ofValue :=
  Six_hand_rank_value a b c d e f ▸ hand_rank_of _
theorem Seven_hand_rank_validated (a b c d e f g : Nat) :
    (Src.Seven.hand_rank_validated 14 [a, b, c, d, e, f, g]).map toModel
      = (handRankValueValidated packed [a, b, c, d, e, f, g]).map HandRank.ofValue :=
  Seven_hand_rank_value_validated a b c d e f g ▸ hand_rank_of _
theorem Six_hand_rank_validated (a b c d e f : Nat) :
    (Src.Six.hand_rank_validated 14 [a, b, c, d, e, f]).map toModel
      = (handRankValueValidated packed [a, b, c, d, e, f]).map HandRank.ofValue :=
  Six_hand_rank_value_validated a b c d e f ▸ hand_rank_of _
theorem Five_hand_rank_validated (a b c d e : Nat) :
    (Src.Five.hand_rank_validated 14 [a, b, c, d, e]).map toModel
      = (handRankValueValidated5 packed [a, b, c, d, e]).map HandRank.ofValue :=
  Five_hand_rank_value_validated a b c d e ▸ hand_rank_of _

end Tie

/-! ## axiom audit (written by tools/tie.py --audit) -/
#print axioms Tie.matchRanges_eq
#print axioms Tie.contig_cover
#print axioms Tie.rowsChk_spec
#print axioms Tie.ranges_are_graph
#print axioms Tie.name_tail
#print axioms Tie.class_tail
#print axioms Tie.HandRank_determine_name
#print axioms Tie.HandRank_determine_class
#print axioms Tie.HandRank_from
#print axioms Tie.HandRank_default
#print axioms Tie.toModel_inj
#print axioms Tie.from_some
#print axioms Tie.HandRank_is_a_valid_hand_rank
#print axioms Tie.hand_rank_of
#print axioms Tie.Five_hand_rank
#print axioms Tie.Seven_hand_rank
#print axioms Tie.Six_hand_rank
#print axioms Tie.Seven_hand_rank_validated
#print axioms Tie.Six_hand_rank_validated
#print axioms Tie.Five_hand_rank_validated
