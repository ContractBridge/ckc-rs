import CkcVerif.Spec.Poker
/-!
# Closed form of `Spec.strength` on a descending rank tuple

`key r1 … r5 flush` is what `strength [r1,…,r5] flush` evaluates to when `r1 ≥ r2 ≥ r3 ≥ r4 ≥ r5`
(`strength_eq_key` in `Lemmas/KernS.lean`, checked by the kernel on all 7,462 feasible classes — a fact
about the specification only, independent of the crate).  The table-dependent kernel checks use `key`
because the kernel evaluates it about eight times faster than the list-based `strength`.
-/
namespace Spec

def enc5 (c a b d e f : Nat) : Nat := ((((c * 13 + a) * 13 + b) * 13 + d) * 13 + e) * 13 + f

def key (r1 r2 r3 r4 r5 : Nat) (flush : Bool) : Nat :=
  if r1 == r2 && r2 == r3 && r3 == r4 then enc5 7 r1 r5 0 0 0
  else if r2 == r3 && r3 == r4 && r4 == r5 then enc5 7 r2 r1 0 0 0
  else if r1 == r2 && r2 == r3 && r4 == r5 then enc5 6 r1 r4 0 0 0
  else if r1 == r2 && r3 == r4 && r4 == r5 then enc5 6 r3 r1 0 0 0
  else if r1 == r2 && r2 == r3 then enc5 3 r1 r4 r5 0 0
  else if r2 == r3 && r3 == r4 then enc5 3 r2 r1 r5 0 0
  else if r3 == r4 && r4 == r5 then enc5 3 r3 r1 r2 0 0
  else if r1 == r2 && r3 == r4 then enc5 2 r1 r3 r5 0 0
  else if r1 == r2 && r4 == r5 then enc5 2 r1 r4 r3 0 0
  else if r2 == r3 && r4 == r5 then enc5 2 r2 r4 r1 0 0
  else if r1 == r2 then enc5 1 r1 r3 r4 r5 0
  else if r2 == r3 then enc5 1 r2 r1 r4 r5 0
  else if r3 == r4 then enc5 1 r3 r1 r2 r5 0
  else if r4 == r5 then enc5 1 r4 r1 r2 r3 0
  else
    let top : Option Nat :=
      if r1 == r5 + 4 then some r1
      else if r1 == 12 && r2 == 3 && r3 == 2 && r4 == 1 && r5 == 0 then some 3 else none
    match top, flush with
    | some t, true => enc5 8 t 0 0 0 0
    | none, true => enc5 5 r1 r2 r3 r4 r5
    | some t, false => enc5 4 t 0 0 0 0
    | none, false => enc5 0 r1 r2 r3 r4 r5

/-- a feasible class: descending rank tuple, not five of one rank; flush only with distinct ranks -/
structure Feasible (r1 r2 r3 r4 r5 : Nat) (f : Bool) : Prop where
  h1 : r1 < 13
  h2 : r2 ≤ r1
  h3 : r3 ≤ r2
  h4 : r4 ≤ r3
  h5 : r5 ≤ r4
  hne : r1 ≠ r5
  hf : f = true → r1 ≠ r2 ∧ r2 ≠ r3 ∧ r3 ≠ r4 ∧ r4 ≠ r5

end Spec
