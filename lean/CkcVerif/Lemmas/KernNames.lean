import CkcVerif.Model.HandRank
import CkcVerif.Spec.Names
import CkcVerif.Lemmas.Abs
import CkcVerif.Lemmas.Sweep
import CkcVerif.Lemmas.NamesDistinct
/-! Kernel facts for C06 over the regenerated `determine_name` / `determine_class` graphs -/
namespace Lemmas
open CK Spec

/-- for every value 1..7462: the class discriminant is the descriptor index of the class the tables send
    to that value, and the name discriminant is 8 − category -/
def checkNames : Bool := (List.range 7462).all fun k =>
  let v := k + 1
  let c := classOf v
  let s := keyC c
  (determineClass v == descrIdx (descrOfStrength s)) && (determineName v == 8 - s / 13 ^ 5) &&
    decide (determineClass v < 309) && decide (determineName v < 9) &&
    (allDescr.getD (determineClass v) (0, 0, 0) == descrOfStrength s) && decide (s / 13 ^ 5 ≤ 8)

theorem checkNames_ok : checkNames = true := by decide +kernel

theorem names_at (v : Nat) (h1 : 1 ≤ v) (h2 : v ≤ 7462) :
    determineClass v = descrIdx (descrOfStrength (keyC (classOf v))) ∧
    determineName v = 8 - keyC (classOf v) / 13 ^ 5 ∧ determineClass v < 309 ∧ determineName v < 9 ∧
    allDescr.getD (determineClass v) (0, 0, 0) = descrOfStrength (keyC (classOf v)) ∧
    keyC (classOf v) / 13 ^ 5 ≤ 8 := by
  have := all_range checkNames_ok (i := v - 1) (by omega)
  rw [show v - 1 + 1 = v by omega] at this
  simp only [Bool.and_eq_true, beq_iff_eq, decide_eq_true_eq] at this
  exact ⟨this.1.1.1.1.1, this.1.1.1.1.2, this.1.1.1.2, this.1.1.2, this.1.2, this.2⟩

/-- outside 1..7462 both graphs give Invalid: value 0, and every value from 7463 on -/
theorem graph_shape : Gen.nameTailStart = 7463 ∧ Gen.classTailStart = 7463 ∧ Gen.nameTail = Gen.nameInvalid ∧
    Gen.classTail = Gen.classInvalid ∧ determineName 0 = Gen.nameInvalid ∧ determineClass 0 = Gen.classInvalid ∧
    Gen.nameInvalid = 9 ∧ Gen.classInvalid = 309 := by decide +kernel

theorem invalid_above (v : Nat) (h : v > 7462) :
    determineName v = Gen.nameInvalid ∧ determineClass v = Gen.classInvalid := by
  obtain ⟨h1, h2, h3, h4, _⟩ := graph_shape
  unfold determineName determineClass
  rw [h1, h2, if_neg (by omega), if_neg (by omega)]
  exact ⟨h3, h4⟩

/-- Invalid for both exactly when the value is 0 or above 7462 — for every value -/
theorem invalid_iff (v : Nat) :
    (determineName v = Gen.nameInvalid ↔ (v = 0 ∨ v > 7462)) ∧
    (determineClass v = Gen.classInvalid ↔ (v = 0 ∨ v > 7462)) := by
  obtain ⟨_, _, _, _, z1, z2, i1, i2⟩ := graph_shape
  by_cases h0 : v = 0
  · subst h0; simp [z1, z2]
  · by_cases hb : v > 7462
    · obtain ⟨a, b⟩ := invalid_above v hb
      simp [a, b, hb]
    · obtain ⟨_, _, c, n, _, _⟩ := names_at v (by omega) (by omega)
      rw [i1, i2]
      omega

theorem isInvalid_iff (v : Nat) : (HandRank.ofValue v).isInvalid = true ↔ (v = 0 ∨ v > 7462) := by
  unfold HandRank.isInvalid HandRank.ofValue
  simp only [beq_iff_eq]
  exact (invalid_iff v).1

theorem isInvalid_valid {v : Nat} (h1 : 1 ≤ v) (h2 : v ≤ 7462) : (HandRank.ofValue v).isInvalid = false :=
  Bool.eq_false_iff.mpr fun hi => by have := (isInvalid_iff v).mp hi; omega

theorem compare_rev {a b x y : Nat} (h : x + a = y + b) : compare x y = compare b a := by
  rcases Nat.lt_trichotomy a b with h' | h' | h'
  · rw [Nat.compare_eq_gt.mpr h', Nat.compare_eq_gt.mpr (by omega)]
  · rw [Nat.compare_eq_eq.mpr h'.symm, Nat.compare_eq_eq.mpr (by omega)]
  · rw [Nat.compare_eq_lt.mpr h', Nat.compare_eq_lt.mpr (by omega)]

/-- `cmp` on converted values: within the valid and within the invalid values a lower value is greater; invalid is
    below valid -/
theorem cmp_ofValue (a b : Nat) : (HandRank.ofValue a).cmp (HandRank.ofValue b) =
    if (a = 0 ∨ a > 7462) ↔ (b = 0 ∨ b > 7462) then compare b a else if a = 0 ∨ a > 7462 then .lt else .gt := by
  have ia := isInvalid_iff a
  have ib := isInvalid_iff b
  unfold HandRank.cmp
  cases ha : (HandRank.ofValue a).isInvalid <;> cases hb : (HandRank.ofValue b).isInvalid <;>
    simp only [ha, hb, Bool.false_eq_true, false_iff, true_iff] at ia ib <;>
    simp only [ia, ib, Bool.and_self, Bool.and_false, Bool.false_and, Bool.false_eq_true, if_true, if_false, iff_self,
      iff_false, false_iff, not_true_eq_false, HandRank.ofValue]
  -- both valid: the two-test chain of `cmp` against `compare`
  rw [Nat.compare_eq_ite_lt]
  rcases Nat.lt_trichotomy a b with h | rfl | h
  · simp [h, Nat.lt_asymm h]
  · simp
  · simp [h, Nat.lt_asymm h]

/-- along v = 1..7462 both discriminants never decrease, the class discriminant steps by at most one,
    starts at 0 and ends at 308: each of the 309 classes is one contiguous, non-empty value range -/
def contiguousChk : Bool :=
  (determineClass 1 == 0) && (determineClass 7462 == 308) && (determineName 1 == 0) && (determineName 7462 == 8) &&
  (List.range 7461).all fun k =>
    let v := k + 1
    (determineClass v == determineClass (v + 1) || determineClass v + 1 == determineClass (v + 1)) &&
    (determineName v == determineName (v + 1) || determineName v + 1 == determineName (v + 1))
theorem contiguousChk_ok : contiguousChk = true := by decide +kernel

end Lemmas
