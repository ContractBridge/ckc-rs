import CkcVerif.Model.Hand
import CkcVerif.Lemmas.Sort
import CkcVerif.Lemmas.CardFacts
/-! The six differently written uniqueness tests are `Nodup`; validity is "52-card words, no repeats" -/
namespace Lemmas
open CK Spec

/-- for every size 2..7 and words below 2^32: unique ⇔ no two slots equal (and, for the sorted scan
    of six and seven slots, no slot is 0xFFFFFFFF) -/
theorem areUnique_iff (ws : List Nat) (hl : 2 ≤ ws.length ∧ ws.length ≤ 7) (hb : ∀ w ∈ ws, w < 2 ^ 32) :
    areUnique ws = true ↔ ws.Nodup ∧ (6 ≤ ws.length → 0xFFFFFFFF ∉ ws) := by
  match ws, hl, hb with
  | [a, b], _, _ => simp [areUnique]
  | [a, b, c], _, _ => simp [areUnique, and_assoc]
  | [a, b, c, d], _, _ => simp [areUnique, and_assoc]
  | [a, b, c, d, e], _, _ => simp [areUnique, and_assoc]
  | [a, b, c, d, e, f], _, hb => exact (scan_sorted_iff _ hb).trans (by simp)
  | [a, b, c, d, e, f, g], _, hb => exact (scan_sorted_iff _ hb).trans (by simp)
  | [], hl, _ => simp at hl
  | [_], hl, _ => simp at hl
  | _ :: _ :: _ :: _ :: _ :: _ :: _ :: _ :: _, hl, _ => simp at hl

theorem isCorrupt_iff (ws : List Nat) : isCorrupt ws = false ↔ ∀ w ∈ ws, w ∈ deckWords := by
  simp only [isCorrupt, List.any_eq_false, beq_iff_eq, ← filter_ne_blank, ne_eq]

theorem containBlank_iff (ws : List Nat) : containBlank ws = true ↔ 0 ∈ ws := by
  simp [containBlank, blank_zero.1]

/-- **valid ⇔ every slot holds one of the 52 card words and no two slots are equal**
    (every size 2..7, arbitrary 32-bit words) -/
theorem isValid_iff (ws : List Nat) (hl : 2 ≤ ws.length ∧ ws.length ≤ 7) (hb : ∀ w ∈ ws, w < 2 ^ 32) :
    isValid ws = true ↔ (∀ w ∈ ws, w ∈ deckWords) ∧ ws.Nodup := by
  rw [isValid, Bool.and_eq_true, areUnique_iff ws hl hb, Bool.not_eq_true', isCorrupt_iff]
  refine ⟨fun ⟨⟨h1, _⟩, h2⟩ => ⟨h2, h1⟩, fun ⟨h1, h2⟩ => ⟨⟨h2, fun _ hm => ?_⟩, h1⟩⟩
  have := (deckWords_facts.2 _ (h1 _ hm)).2
  omega

/-- distinct real cards form a valid hand -/
theorem isValid_cards (cs : List Card) (hl : 2 ≤ cs.length ∧ cs.length ≤ 7) (hok : ∀ c ∈ cs, c.ok)
    (hnd : cs.Nodup) : isValid (cs.map Card.word) = true := by
  have hm : ∀ w ∈ cs.map Card.word, w ∈ deckWords := by
    intro w hw
    obtain ⟨c, hc, e⟩ := List.mem_map.mp hw
    exact e ▸ word_mem_deck c (hok c hc)
  refine (isValid_iff _ (by simpa using hl) fun w hw => ?_).mpr ⟨hm, words_nodup cs hok hnd⟩
  have := (deckWords_facts.2 w (hm w hw)).2
  omega

end Lemmas
