import CkcVerif.Lemmas.Masks
import CkcVerif.Lemmas.Abs
import CkcVerif.Lemmas.Sweep
/-! K over the 7,462 classes: the straight test on the class's rank mask, and the flush flag, agree with
    the category digit of the class's strength key (4 straight, 5 flush, 8 straight flush). -/
namespace Lemmas
open CK Spec

/-- the straight test is read off `straightMasks` (the bit trick itself is checked on all masks in `Masks`; running its
    32-bit popcount again for every class would triple the cost of this pass) -/
def catOk (r1 r2 r3 r4 r5 : Nat) (f : Bool) : Bool :=
  let cat := key r1 r2 r3 r4 r5 f / 13 ^ 5
  (straightMasks.contains (orMask5 r1 r2 r3 r4 r5) == (cat == 4 || cat == 8)) && (f == (cat == 5 || cat == 8))

theorem checkCat_ok : allClasses catOk = true := by decide +kernel

theorem cat_ok {r1 r2 r3 r4 r5 : Nat} {f : Bool} (h : Feasible r1 r2 r3 r4 r5 f) :
    isStraightMask (orMask5 r1 r2 r3 r4 r5) =
      (key r1 r2 r3 r4 r5 f / 13 ^ 5 == 4 || key r1 r2 r3 r4 r5 f / 13 ^ 5 == 8) ∧
    f = (key r1 r2 r3 r4 r5 f / 13 ^ 5 == 5 || key r1 r2 r3 r4 r5 f / 13 ^ 5 == 8) := by
  have hlt : orMask5 r1 r2 r3 r4 r5 < 8192 := orMask5_eq_L .. ▸ orMaskL_lt _ h.lt
  have := allClasses_spec checkCat_ok h
  simp only [catOk, Bool.and_eq_true, beq_iff_eq] at this
  exact ⟨(isStraightMask_eq _ hlt).trans this.1, this.2⟩

end Lemmas
