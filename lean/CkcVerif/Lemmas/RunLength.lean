import CkcVerif.Spec.Poker
/-!
# `Spec.counts` of a descending list is its run-length encoding

`counts` asks, for each of the thirteen ranks, how often it occurs: 65 comparisons for five cards, which is most of
what the kernel spends on `Spec.strength`.  On a descending list the answer is the list of its runs, read off in one
pass.  The specification stays as it is; the kernel passes over the classes evaluate it through `rle`.
-/
namespace Lemmas
open Spec

/-- run-length encoding: (value, length) of every maximal run -/
def rle : List Nat → List (Nat × Nat)
  | [] => []
  | r :: rs =>
    match rle rs with
    | (r', n) :: t => if r == r' then (r, n + 1) :: t else (r, 1) :: (r', n) :: t
    | [] => [(r, 1)]

theorem rle_head (r : Nat) (rs : List Nat) : ∃ n t, rle (r :: rs) = (r, n) :: t := by
  rw [rle]
  split
  · split <;> exact ⟨_, _, rfl⟩
  · exact ⟨_, _, rfl⟩

/-- the counts of the ranks `ds` (strictly descending) in `rs`, zero counts dropped -/
def countsOn (ds rs : List Nat) : List (Nat × Nat) := (ds.map fun r => (r, rs.count r)).filter fun p => p.2 != 0

/-- peeling the leading run of `d`s off a descending list whose members are at most `d` -/
theorem rle_peel (d : Nat) : ∀ rs : List Nat, rs.Pairwise (· ≥ ·) → (∀ r ∈ rs, r ≤ d) →
    rle rs = (if rs.count d ≠ 0 then [(d, rs.count d)] else []) ++ rle (rs.filter (· != d))
  | [], _, _ => rfl
  | x :: t, hs, hd => by
    have ht := rle_peel d t (List.pairwise_cons.mp hs).2 fun r hr => hd r (List.mem_cons_of_mem _ hr)
    by_cases hx : x = d
    · subst hx
      have hf : (x :: t).filter (· != x) = t.filter (· != x) := by simp
      rw [hf, List.count_cons_self, rle, ht]
      by_cases hc : t.count x = 0
      · simp only [hc, ne_eq, not_true_eq_false, if_false, List.nil_append, Nat.zero_add, Nat.succ_ne_self,
          not_false_eq_true, if_true, List.cons_append]
        -- no further `x`: the next run, if any, is of another rank
        cases hl : t.filter (· != x) with
        | nil => rfl
        | cons y u =>
          obtain ⟨n, v, e⟩ := rle_head y u
          have hy : y ≠ x := by
            have := List.mem_filter.mp (hl ▸ List.mem_cons_self : y ∈ t.filter (· != x))
            simpa using this.2
          simp [e, Ne.symm hy]
      · simp [hc]
    · have hlt : ∀ r ∈ x :: t, r ≠ d := fun r hr => by
        have h1 := hd x List.mem_cons_self
        rcases List.mem_cons.mp hr with rfl | hr
        · exact hx
        · have := (List.pairwise_cons.mp hs).1 r hr; omega
      rw [List.count_eq_zero_of_not_mem fun h => hlt d h rfl, List.filter_eq_self.mpr fun r hr => by simpa using hlt r hr]
      rfl

theorem countsOn_eq_rle : ∀ ds rs : List Nat, ds.Pairwise (· > ·) → rs.Pairwise (· ≥ ·) → (∀ r ∈ rs, r ∈ ds) →
    countsOn ds rs = rle rs
  | [], rs, _, _, hm => by
    cases rs with
    | nil => rfl
    | cons r _ => cases hm r List.mem_cons_self
  | d :: ds, rs, hd, hs, hm => by
    obtain ⟨hd1, hd2⟩ := List.pairwise_cons.mp hd
    have hle : ∀ r ∈ rs, r ≤ d := fun r hr => by
      rcases List.mem_cons.mp (hm r hr) with rfl | h
      · exact Nat.le_refl _
      · exact Nat.le_of_lt (hd1 r h)
    have ih := countsOn_eq_rle ds (rs.filter (· != d)) hd2 (hs.filter _) fun r hr => by
      obtain ⟨h1, h2⟩ := List.mem_filter.mp hr
      rcases List.mem_cons.mp (hm r h1) with rfl | h
      · simp at h2
      · exact h
    rw [rle_peel d rs hs hle, ← ih]
    have hc : ∀ r ∈ ds, (rs.filter (· != d)).count r = rs.count r := fun r hr => by
      rw [List.count_filter]; simpa using Nat.ne_of_lt (hd1 r hr)
    have e : countsOn ds (rs.filter (· != d)) = (ds.map fun r => (r, rs.count r)).filter fun p => p.2 != 0 := by
      rw [countsOn, List.map_congr_left fun r hr => by rw [hc r hr]]
    rw [e, countsOn, List.map_cons, List.filter_cons]
    by_cases h0 : rs.count d = 0 <;> simp [h0]

/-- for ranks below 13, high to low -/
theorem counts_eq_rle {rs : List Nat} (hs : rs.Pairwise (· ≥ ·)) (h : ∀ r ∈ rs, r < 13) : counts rs = rle rs :=
  countsOn_eq_rle [12, 11, 10, 9, 8, 7, 6, 5, 4, 3, 2, 1, 0] rs (by decide) hs fun r hr => by
    have := h r hr
    simp only [List.mem_cons, List.not_mem_nil, or_false]
    omega

end Lemmas
