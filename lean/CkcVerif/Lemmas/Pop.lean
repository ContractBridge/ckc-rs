import CkcVerif.Model.Bits
/-!
Population-count lemmas.  `pc n x` is the length of `(List.range n).filter x.testBit`, the increasing list
of the set bits below `n`; what a count says about the bits is read off that list.
-/
namespace Lemmas
open CK

theorem pc_eq_length (n x : Nat) : pc n x = ((List.range n).filter x.testBit).length := by
  induction n with
  | zero => rfl
  | succ n ih =>
    rw [pc, List.range_succ, List.filter_append, List.length_append, ih]
    by_cases hb : x.testBit n <;> simp [hb]; omega

theorem mem_bits {n x k : Nat} : k ∈ (List.range n).filter x.testBit ↔ k < n ∧ x.testBit k = true := by
  rw [List.mem_filter, List.mem_range]

/-- an increasing list with the set bits below `n` as its members is the list that `pc` counts -/
theorem bits_eq {n x : Nat} {l : List Nat} (hs : l.Pairwise (· < ·))
    (hm : ∀ k, k ∈ l ↔ k < n ∧ x.testBit k = true) : (List.range n).filter x.testBit = l := by
  have hf : ((List.range n).filter x.testBit).Pairwise (· < ·) := List.pairwise_lt_range.filter _
  refine List.Perm.eq_of_pairwise (fun a b _ _ h1 h2 => absurd h1 (Nat.lt_asymm h2)) hf hs ?_
  rw [List.perm_ext_iff_of_nodup (hf.imp Nat.ne_of_lt) (hs.imp Nat.ne_of_lt)]
  intro k
  rw [mem_bits, hm]

theorem bits_two_pow_or {i j : Nat} (hji : j < i) (n : Nat) :
    (List.range n).filter (2 ^ i ||| 2 ^ j).testBit = [j, i].filter (· < n) := by
  apply bits_eq (List.Pairwise.filter _ (by simp [hji]))
  intro k
  simp only [List.mem_filter, List.mem_cons, List.not_mem_nil, or_false, decide_eq_true_eq, Nat.testBit_or,
    Nat.testBit_two_pow, Bool.or_eq_true]
  omega

theorem pc_eq_zero_iff {n x : Nat} : pc n x = 0 ↔ ∀ i < n, x.testBit i = false := by
  rw [pc_eq_length, List.length_eq_zero_iff, List.filter_eq_nil_iff]
  simp

theorem pc_zero : ∀ (n x : Nat), pc n x = 0 → ∀ i < n, x.testBit i = false :=
  fun _ _ => pc_eq_zero_iff.mp

theorem pc_one : ∀ (n x : Nat), pc n x = 1 →
    ∃ i, i < n ∧ x.testBit i = true ∧ ∀ k < n, k ≠ i → x.testBit k = false := by
  intro n x h
  rw [pc_eq_length, List.length_eq_one_iff] at h
  obtain ⟨i, hl⟩ := h
  have hm : ∀ k, k < n ∧ x.testBit k = true ↔ k = i := fun k => by rw [← mem_bits, hl, List.mem_singleton]
  refine ⟨i, ((hm i).mpr rfl).1, ((hm i).mpr rfl).2, fun k hk hki => ?_⟩
  exact Bool.eq_false_iff.mpr fun hb => hki ((hm k).mp ⟨hk, hb⟩)

theorem pc_two : ∀ (n x : Nat), pc n x = 2 →
    ∃ i j, j < i ∧ i < n ∧ x.testBit i = true ∧ x.testBit j = true ∧
      ∀ k < n, k ≠ i → k ≠ j → x.testBit k = false := by
  intro n x h
  rw [pc_eq_length] at h
  have hs : ((List.range n).filter x.testBit).Pairwise (· < ·) := List.pairwise_lt_range.filter _
  have hm := @mem_bits n x
  match hl : (List.range n).filter x.testBit, h with
  | [j, i], _ =>
    rw [hl] at hs hm
    have hi := hm.mp (List.mem_cons_of_mem _ List.mem_cons_self)
    have hj := hm.mp List.mem_cons_self
    refine ⟨i, j, by simpa using hs, hi.1, hi.2, hj.2, fun k hk hki hkj => ?_⟩
    exact Bool.eq_false_iff.mpr fun hb => by simpa [hki, hkj] using hm.mpr ⟨hk, hb⟩

theorem testBit_of_lt {x n k : Nat} (hx : x < 2 ^ n) (hk : n ≤ k) : x.testBit k = false :=
  Nat.testBit_lt_two_pow (Nat.lt_of_lt_of_le hx (Nat.pow_le_pow_right (by omega) hk))

/-- bits at or above `n` of `x < 2^n` do not count -/
theorem pc_of_lt {n m x : Nat} (h : x < 2 ^ n) (hnm : n ≤ m) : pc m x = pc n x := by
  rw [pc_eq_length, pc_eq_length, bits_eq (List.pairwise_lt_range.filter _) fun k => ?_]
  rw [mem_bits]
  refine ⟨fun ⟨hk, hb⟩ => ⟨Nat.lt_of_lt_of_le hk hnm, hb⟩, fun ⟨_, hb⟩ => ⟨?_, hb⟩⟩
  false_or_by_contra
  rw [testBit_of_lt h (Nat.le_of_not_lt ‹_›)] at hb
  cases hb

/-- a 64-bit value with exactly two bits set is `2^i ||| 2^j` -/
theorem two_bits (x : Nat) (hx : x < 2 ^ 64) (h : pc 64 x = 2) :
    ∃ i j, j < i ∧ i < 64 ∧ x = 2 ^ i ||| 2 ^ j := by
  obtain ⟨i, j, hji, hi, hbi, hbj, hr⟩ := pc_two 64 x h
  refine ⟨i, j, hji, hi, Nat.eq_of_testBit_eq fun k => ?_⟩
  rw [Nat.testBit_or, Nat.testBit_two_pow, Nat.testBit_two_pow]
  by_cases hki : i = k
  · simp [← hki, hbi]
  · by_cases hkj : j = k
    · simp [← hkj, hbj]
    · have : x.testBit k = false :=
        if hk : k < 64 then hr k hk (Ne.symm hki) (Ne.symm hkj) else testBit_of_lt hx (by omega)
      simp [this, hki, hkj]

/-- population count is sub-additive over OR -/
theorem pc_or_le : ∀ (n a b : Nat), pc n (a ||| b) ≤ pc n a + pc n b
  | 0, _, _ => by simp [pc]
  | n + 1, a, b => by
    have ih := pc_or_le n a b
    unfold pc
    rw [Nat.testBit_or]
    cases a.testBit n <;> cases b.testBit n <;> simp <;> omega

theorem pc_zero_arg (n : Nat) : pc n 0 = 0 := pc_eq_zero_iff.mpr fun _ _ => Nat.zero_testBit _

theorem pc_le (n x : Nat) : pc n x ≤ n := by
  rw [pc_eq_length]
  exact Nat.le_trans (List.length_filter_le ..) (Nat.le_of_eq List.length_range)

end Lemmas
