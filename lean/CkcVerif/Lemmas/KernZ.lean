import CkcVerif.Model.Five
import CkcVerif.Lemmas.Sweep
/-! Kernel facts **Z** about the regenerated tables and rank masks:
    * a 13-bit mask with at most five bits set is at most 7936 (so it indexes both 7,937-cell tables);
    * `UNIQUE_5[i] ≠ 0 ↔ popcount i = 5 ↔ FLUSHES[i] ≠ 0` for every cell;
    * `PRODUCTS` is strictly increasing, `VALUES[j] ∈ 1..7462`. -/
namespace Lemmas
open CK

/-- 7936 = 0b1111100000000: each of the 255 larger 13-bit masks has more than five bits set -/
theorem maskChk_ok : ((List.range 255).all fun k => decide (5 < pc 13 (7937 + k))) = true := by decide +kernel

theorem mask_bound (x : Nat) (hx : x < 8192) (h : pc 13 x ≤ 5) : x ≤ 7936 := by
  false_or_by_contra
  have := all_range maskChk_ok (i := x - 7937) (by omega)
  rw [show 7937 + (x - 7937) = x by omega, decide_eq_true_eq] at this
  omega

def zChk : Bool := (List.range 7937).all fun i =>
  ((get 16 Gen.unique5P i != 0) == (pc 13 i == 5)) && ((get 16 Gen.flushesP i != 0) == (pc 13 i == 5))
theorem zChk_ok : zChk = true := by decide +kernel

theorem unique5_zero (i : Nat) (hi : i < 7937) (h : pc 13 i ≠ 5) : get 16 Gen.unique5P i = 0 := by
  have := all_range zChk_ok hi
  simp only [Bool.and_eq_true, beq_iff_eq, beq_eq_false_iff_ne.mpr h] at this
  simpa using this.1

def sortedChk : Bool :=
  (List.range 4887).all (fun i => decide (get 32 Gen.productsP i < get 32 Gen.productsP (i + 1))) &&
  (List.range 4888).all (fun j => decide (1 ≤ get 16 Gen.valuesP j ∧ get 16 Gen.valuesP j ≤ 7462))
theorem sortedChk_ok : sortedChk = true := by decide +kernel

/-- a product of 0 (a blank slot) is not in the table: the search gives index 0, whose product is not 0 -/
theorem find_zero : findInProducts packed 0 = some 0 ∧ packed.products 0 ≠ some 0 := by decide +kernel

end Lemmas
