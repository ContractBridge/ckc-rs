import CkcVerif.Lemmas.Abs
import CkcVerif.Lemmas.Sweep
/-! Kernel fact **W1**: every value 1..7462 is the value of a feasible class (read from the second
    inverse table).  Table-dependent. -/
namespace Lemmas
open CK Spec

def feasibleB (c : Nat × Nat × Nat × Nat × Nat × Bool) : Bool :=
  decide (c.1 < 13) && decide (c.2.1 ≤ c.1) && decide (c.2.2.1 ≤ c.2.1) && decide (c.2.2.2.1 ≤ c.2.2.1) &&
    decide (c.2.2.2.2.1 ≤ c.2.2.2.1) && (c.1 != c.2.2.2.2.1) &&
    (!c.2.2.2.2.2 || (c.1 != c.2.1 && c.2.1 != c.2.2.1 && c.2.2.1 != c.2.2.2.1 && c.2.2.2.1 != c.2.2.2.2.1))

def checkW : Bool := (List.range 7462).all fun k =>
  let c := classOf (k + 1)
  feasibleB c && (evalAbs c.1 c.2.1 c.2.2.1 c.2.2.2.1 c.2.2.2.2.1 c.2.2.2.2.2 == some (k + 1))

theorem checkW_ok : checkW = true := by decide +kernel

theorem feasible_of_feasibleB {c : Nat × Nat × Nat × Nat × Nat × Bool} (h : feasibleB c = true) :
    Feasible c.1 c.2.1 c.2.2.1 c.2.2.2.1 c.2.2.2.2.1 c.2.2.2.2.2 := by
  simp only [feasibleB, Bool.and_eq_true, decide_eq_true_eq, bne_iff_ne, ne_eq, Bool.or_eq_true,
    Bool.not_eq_true'] at h
  obtain ⟨⟨⟨⟨⟨⟨a1, a2⟩, a3⟩, a4⟩, a5⟩, a6⟩, a7⟩ := h
  refine ⟨a1, a2, a3, a4, a5, a6, fun hf => ?_⟩
  rcases a7 with h | h
  · rw [hf] at h; cases h
  · exact ⟨h.1.1.1, h.1.1.2, h.1.2, h.2⟩

/-- every value in range is the value of the feasible class `classOf v` -/
theorem classOf_ok (v : Nat) (h1 : 1 ≤ v) (h2 : v ≤ 7462) :
    Feasible (classOf v).1 (classOf v).2.1 (classOf v).2.2.1 (classOf v).2.2.2.1 (classOf v).2.2.2.2.1
      (classOf v).2.2.2.2.2 ∧
    evalAbs (classOf v).1 (classOf v).2.1 (classOf v).2.2.1 (classOf v).2.2.2.1 (classOf v).2.2.2.2.1
      (classOf v).2.2.2.2.2 = some v := by
  have h := all_range checkW_ok (i := v - 1) (by omega)
  rw [show v - 1 + 1 = v by omega] at h
  simp only [Bool.and_eq_true, beq_iff_eq] at h
  exact ⟨feasible_of_feasibleB h.1, h.2⟩

end Lemmas
