/-! Association lists as function graphs: `List.lookup` on the dumped point lists -/
namespace Lemmas

theorem lookup_none {l : List (Nat × Nat)} {w : Nat} (h : ∀ p ∈ l, p.1 ≠ w) : l.lookup w = none :=
  List.lookup_eq_none_iff.mpr fun p hp => bne_iff_ne.mpr fun e => h p hp e.symm

theorem mem_of_lookup {l : List (Nat × Nat)} {w v : Nat} (h : l.lookup w = some v) : (w, v) ∈ l := by
  obtain ⟨l₁, l₂, rfl, _⟩ := List.lookup_eq_some_iff.mp h
  simp

theorem lookup_mem {l : List (Nat × Nat)} {w v : Nat} (hm : (w, v) ∈ l)
    (hd : (l.map (·.1)).Nodup) : l.lookup w = some v := by
  induction l with
  | nil => cases hm
  | cons p ps ih =>
    obtain ⟨a, b⟩ := p
    rw [List.map_cons, List.nodup_cons] at hd
    rcases List.mem_cons.mp hm with h | h
    · cases h; simp
    · have hne : (w == a) = false :=
        beq_eq_false_iff_ne.mpr fun e => hd.1 (e ▸ List.mem_map_of_mem (f := (·.1)) h)
      rw [List.lookup_cons, hne]
      exact ih h hd.2

/-- a look-up with default stays inside any set that holds the default and every stored value -/
theorem lookup_getD_mem {l : List (Nat × Nat)} {vals : List Nat} {d : Nat} (hd : d ∈ vals)
    (h : ∀ p ∈ l, p.2 ∈ vals) (w : Nat) : (l.lookup w).getD d ∈ vals := by
  cases hl : l.lookup w with
  | none => exact hd
  | some v => exact h _ (mem_of_lookup hl)

end Lemmas
