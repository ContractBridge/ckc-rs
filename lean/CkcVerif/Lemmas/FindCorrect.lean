import CkcVerif.Lemmas.Find
import CkcVerif.Lemmas.KernZ
/-!
# Functional correctness of the (repaired) binary search and of `not_unique`

`PRODUCTS` is strictly increasing (kernel fact over the regenerated table), so the search returns the
index of a key that is in the table, and `not_unique` returns the value stored for a product that is in
the table and 0 for one that is not — for every key.
-/
namespace Lemmas
open CK

theorem P_adjacent (i : Nat) (h : i < 4887) : P i < P (i + 1) :=
  of_decide_eq_true (all_range (Bool.and_eq_true _ _ ▸ sortedChk_ok).1 h)

/-- the table is strictly increasing -/
theorem P_strict (a : Nat) : ∀ b, a < b → b < 4888 → P a < P b := by
  intro b
  induction b with
  | zero => intro h; omega
  | succ b ih =>
    intro hab hb
    have hadj := P_adjacent b (by omega)
    by_cases h : a = b
    · subst h; exact hadj
    · have := ih (by omega) (by omega); omega

/-- **the search finds every key that is in the table** -/
theorem findInProducts_found (i : Nat) (hi : i < 4888) : findInProducts packed (P i) = some i := by
  obtain ⟨j, e, _, hf⟩ := findGo_spec (P i) 13 0 4887 (by omega) (by decide)
  rw [findInProducts, e, hf P_strict i (by omega) (by omega) rfl]

/-- **`not_unique` for every key**: the value stored with the product if the product is in the table,
    0 otherwise -/
theorem notUniqueKey_spec (key : Nat) :
    (∀ i, i < 4888 → P i = key → notUniqueKey packed key = packed.values i) ∧
    ((∀ i, i < 4888 → P i ≠ key) → notUniqueKey packed key = some 0) := by
  constructor
  · intro i hi hk
    rw [notUniqueKey, ← hk, findInProducts_found i hi]
    simp [products_eq i hi]
  · intro hno
    obtain ⟨j, hj, hlt⟩ := findInProducts_total key
    have : (P j != key) = true := by simpa using hno j hlt
    simp only [notUniqueKey, hj, products_eq j hlt, this, if_true]
    decide

end Lemmas
