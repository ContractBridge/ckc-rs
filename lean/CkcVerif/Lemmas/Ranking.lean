import CkcVerif.Lemmas.KeyInv
import CkcVerif.Lemmas.KernW
import CkcVerif.Lemmas.Order
/-!
# The ranking: all hand classes listed by value is the list of all classes sorted by strength
-/
namespace Lemmas
open CK Spec

/-- the class the tables send to value 1, to value 2, …, to value 7462 -/
def ranking : List (Nat × Nat × Nat × Nat × Nat × Bool) := (List.range 7462).map (fun k => classOf (k + 1))

theorem ranking_length : ranking.length = 7462 := by simp [ranking]

theorem ranking_get (k : Nat) (hk : k < 7462) : ranking[k]? = some (classOf (k + 1)) := by
  simp [ranking, hk]

/-- listed by value, the classes are strictly decreasing in strength -/
theorem ranking_sorted : ranking.Pairwise (fun c d => keyC c > keyC d) := by
  refine List.pairwise_map.mpr (List.pairwise_lt_range.imp_of_mem fun {a b} ha hb hab => ?_)
  have ha' := List.mem_range.mp ha
  have hb' := List.mem_range.mp hb
  obtain ⟨fa, ea⟩ := classOf_ok (a + 1) (by omega) (by omega)
  obtain ⟨fb, eb⟩ := classOf_ok (b + 1) (by omega) (by omega)
  exact (value_lt_iff fa fb ea eb).mp (by omega)

/-- a feasible class is the class the tables send its value to -/
theorem classOf_eval {r1 r2 r3 r4 r5 : Nat} {f : Bool} (h : Feasible r1 r2 r3 r4 r5 f) {v : Nat}
    (hv : evalAbs r1 r2 r3 r4 r5 f = some v) : 1 ≤ v ∧ v ≤ 7462 ∧ classOf v = (r1, r2, r3, r4, r5, f) := by
  obtain ⟨v', e, a1, a2, _⟩ := feasible_ok h
  rw [hv] at e; cases e
  obtain ⟨fc, ec⟩ := classOf_ok v a1 a2
  obtain ⟨e1, e2, e3, e4, e5, e6⟩ := key_injective fc h ((value_eq_iff fc h ec hv).mp rfl)
  exact ⟨a1, a2, by rw [← e1, ← e2, ← e3, ← e4, ← e5, ← e6]⟩

/-- every feasible class occurs in the ranking, at the position given by its value -/
theorem ranking_complete {r1 r2 r3 r4 r5 : Nat} {f : Bool} (h : Feasible r1 r2 r3 r4 r5 f) {v : Nat}
    (hv : evalAbs r1 r2 r3 r4 r5 f = some v) :
    1 ≤ v ∧ v ≤ 7462 ∧ ranking[v - 1]? = some (r1, r2, r3, r4, r5, f) := by
  obtain ⟨a1, a2, hc⟩ := classOf_eval h hv
  exact ⟨a1, a2, by rw [ranking_get (v - 1) (by omega), show v - 1 + 1 = v by omega, hc]⟩

/-- in a strictly decreasing list, exactly `i` entries are greater than the `i`-th -/
theorem count_gt_of_sorted {α : Type} (key : α → Nat) :
    ∀ (l : List α), l.Pairwise (fun c d => key c > key d) → ∀ (i : Nat) (hi : i < l.length),
      (l.filter (fun c => decide (key c > key l[i]))).length = i
  | [], _, i, hi => by simp at hi
  | a :: t, hp, i, hi => by
    obtain ⟨ha, ht⟩ := List.pairwise_cons.mp hp
    cases i with
    | zero =>
      simp only [List.getElem_cons_zero]
      rw [List.filter_cons_of_neg (by simp)]
      have : t.filter (fun c => decide (key c > key a)) = [] := by
        rw [List.filter_eq_nil_iff]
        intro b hb
        have := ha b hb
        simp; omega
      rw [this]; rfl
    | succ j =>
      have hj : j < t.length := by simpa using hi
      simp only [List.getElem_cons_succ]
      have hmem : t[j] ∈ t := List.getElem_mem hj
      rw [List.filter_cons_of_pos (by have := ha _ hmem; simpa using this)]
      rw [List.length_cons, count_gt_of_sorted key t ht j hj]

end Lemmas
