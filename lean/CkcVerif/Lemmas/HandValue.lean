import CkcVerif.Lemmas.Perm
import CkcVerif.Lemmas.Order
import CkcVerif.Lemmas.KernS
import CkcVerif.Lemmas.Hands
/-!
# The class of a hand: five distinct real cards, in any slot order, evaluate as a feasible class, and the value is that
  class's table value, its closed-form key the hand's strength under the rules of poker
-/
namespace Lemmas
open CK Spec

/-- among distinct cards that agree in one coordinate (`g`), the other coordinate (`f`) takes distinct values -/
theorem nodup_coord {cs : List Card} (hnd : cs.Nodup) (f g : Card → Nat)
    (ext : ∀ a b : Card, f a = f b → g a = g b → a = b) (hg : ∀ a ∈ cs, ∀ b ∈ cs, g a = g b) :
    (cs.map f).Nodup :=
  List.pairwise_map.mpr (hnd.imp_of_mem fun ha hb hne e => hne (ext _ _ e (hg _ ha _ hb)))

/-- at most four cards of one rank: their suits are distinct numbers below 4 -/
theorem rank_const_le {n : Nat} {cs : List Card} (h : IsHand n cs) {r : Nat} (hr : ∀ c ∈ cs, c.rank = r) : n ≤ 4 := by
  have hn : (cs.map (·.suit)).Nodup :=
    nodup_coord h.nodup (·.suit) (·.rank) (fun a b e1 e2 => by cases a; cases b; simp_all)
      fun a ha b hb => (hr a ha).trans (hr b hb).symm
  have := hn.length_le_of_subset (l₂ := List.range 4) fun s hs => by
    obtain ⟨c, hc, e⟩ := List.mem_map.mp hs
    exact List.mem_range.mpr (e ▸ (h.ok c hc).2)
  simpa [h.len] using this

theorem sameSuit_iff (cs : List Card) : sameSuit cs = true ↔ ∀ a ∈ cs, ∀ b ∈ cs, a.suit = b.suit := by
  simp only [sameSuit, List.all_eq_true, beq_iff_eq]

/-- suited cards have distinct ranks -/
theorem nodup_ranks {n : Nat} {cs : List Card} (h : IsHand n cs) (hs : sameSuit cs = true) : (ranks cs).Nodup :=
  nodup_coord h.nodup (·.rank) (·.suit) (fun a b e1 e2 => by cases a; cases b; simp_all) ((sameSuit_iff cs).mp hs)

theorem sameSuit5 (c1 c2 c3 c4 c5 : Card) :
    sameSuit [c1, c2, c3, c4, c5] = allSame c1.suit c2.suit c3.suit c4.suit c5.suit := by
  rw [Bool.eq_iff_iff, sameSuit_iff]
  simp only [allSame, List.mem_cons, List.not_mem_nil, or_false, forall_eq_or_imp, forall_eq, Bool.and_eq_true,
    beq_iff_eq, true_and, and_true]
  constructor <;> intro h <;> omega

/-- For five distinct real cards, in any slot order, the word-level value is the value of a feasible
    class obtained by sorting the ranks. -/
theorem five_cards_class (c1 c2 c3 c4 c5 : Card)
    (k1 : c1.ok) (k2 : c2.ok) (k3 : c3.ok) (k4 : c4.ok) (k5 : c5.ok)
    (hnd : [c1, c2, c3, c4, c5].Nodup) :
    ∃ q1 q2 q3 q4 q5,
      [c1.rank, c2.rank, c3.rank, c4.rank, c5.rank].Perm [q1, q2, q3, q4, q5] ∧
      Feasible q1 q2 q3 q4 q5 (allSame c1.suit c2.suit c3.suit c4.suit c5.suit) ∧
      handRankValue5 packed [c1.word, c2.word, c3.word, c4.word, c5.word] =
        evalAbs q1 q2 q3 q4 q5 (allSame c1.suit c2.suit c3.suit c4.suit c5.suit) := by
  have h : IsHand 5 [c1, c2, c3, c4, c5] := ⟨rfl, hnd, by simp [k1, k2, k3, k4, k5]⟩
  obtain ⟨q1, q2, q3, q4, q5, hp, s2, s3, s4, s5⟩ :=
    exists_sorted5 [c1.rank, c2.rank, c3.rank, c4.rank, c5.rank] rfl
  have hmem : ∀ r ∈ [c1.rank, c2.rank, c3.rank, c4.rank, c5.rank], q5 ≤ r ∧ r ≤ q1 := fun r hr => by
    have := hp.mem_iff.mp hr
    simp only [List.mem_cons, List.not_mem_nil, or_false] at this
    omega
  refine ⟨q1, q2, q3, q4, q5, hp, ⟨?_, s2, s3, s4, s5, fun e => ?_, fun hf => ?_⟩, ?_⟩
  · exact h.rank_lt q1 (hp.mem_iff.mpr List.mem_cons_self)
  · -- five of a kind: all ranks lie between `q5` and `q1`
    have := rank_const_le h (r := q1) fun c hc => by
      have := hmem c.rank (List.mem_map_of_mem (f := (·.rank)) hc); omega
    omega
  · have : [q1, q2, q3, q4, q5].Nodup := hp.nodup_iff.mp (nodup_ranks h (by rwa [sameSuit5]))
    simp only [List.nodup_cons, List.mem_cons, List.not_mem_nil, or_false, not_or] at this
    omega
  · rw [eval5_cards c1 c2 c3 c4 c5 k1 k2 k3 k4 k5, evalAbs_eq_L, evalAbs_eq_L, evalAbsL_perm hp]

theorem handStrength_perm {l l' : List Card} (p : l.Perm l') : handStrength l = handStrength l' := by
  have : sameSuit l = sameSuit l' := by
    rw [Bool.eq_iff_iff, sameSuit_iff, sameSuit_iff]
    exact ⟨fun h a ha b hb => h a (p.mem_iff.mpr ha) b (p.mem_iff.mpr hb),
      fun h a ha b hb => h a (p.mem_iff.mp ha) b (p.mem_iff.mp hb)⟩
  rw [handStrength, handStrength, this, strength_perm (p.map _)]

/-- The core statement: five distinct real cards in any slot order evaluate, without panic, to a value
    `v ∈ 1..7462` which is the table value of the feasible class `q1 ≥ … ≥ q5` of their ranks and flush flag, whose
    closed-form key is the hand's strength under the rules of poker. -/
theorem hand_value {cs : List Card} (h : IsHand 5 cs) :
    ∃ v q1 q2 q3 q4 q5, (ranks cs).Perm [q1, q2, q3, q4, q5] ∧ Feasible q1 q2 q3 q4 q5 (sameSuit cs) ∧
      evalAbs q1 q2 q3 q4 q5 (sameSuit cs) = some v ∧ handRankValue5 packed (words cs) = some v ∧
      1 ≤ v ∧ v ≤ 7462 ∧ handStrength cs = key q1 q2 q3 q4 q5 (sameSuit cs) := by
  obtain ⟨c1, c2, c3, c4, c5, rfl⟩ := hand5_cases h
  have k := h.ok
  obtain ⟨q1, q2, q3, q4, q5, hp, hf, he⟩ := five_cards_class c1 c2 c3 c4 c5 (k c1 (by simp)) (k c2 (by simp))
    (k c3 (by simp)) (k c4 (by simp)) (k c5 (by simp)) h.nodup
  rw [← sameSuit5] at hf he
  obtain ⟨v, ev, a1, a2, _⟩ := feasible_ok hf
  exact ⟨v, q1, q2, q3, q4, q5, hp, hf, ev, he.trans ev, a1, a2, (strength_perm hp _).trans (strength_eq_key hf)⟩

/-- values order hands as strength does: lower is stronger, equal is a tie -/
theorem value_order {h1 h2 : List Card} (k1 : IsHand 5 h1) (k2 : IsHand 5 h2) {v1 v2 : Nat}
    (e1 : handRankValue5 packed (words h1) = some v1) (e2 : handRankValue5 packed (words h2) = some v2) :
    (v1 < v2 ↔ handStrength h1 > handStrength h2) ∧ (v1 = v2 ↔ handStrength h1 = handStrength h2) := by
  obtain ⟨v, _, _, _, _, _, _, f1, a1, e, _, _, s1⟩ := hand_value k1
  obtain ⟨w, _, _, _, _, _, _, f2, a2, e', _, _, s2⟩ := hand_value k2
  rw [e1] at e; rw [e2] at e'; cases e; cases e'
  rw [s1, s2]
  exact ⟨value_lt_iff f1 f2 a1 a2, value_eq_iff f1 f2 a1 a2⟩

theorem hand_quantities {cs : List Card} (h : IsHand 5 cs) :
    orRankBits (words cs) = orMaskL (ranks cs) ∧ isFlush (words cs) = sameSuit cs := by
  obtain ⟨c1, c2, c3, c4, c5, rfl⟩ := hand5_cases h
  have k := h.ok
  obtain ⟨q1, _, q3⟩ := five_quantities c1 c2 c3 c4 c5 (k c1 (by simp)) (k c2 (by simp)) (k c3 (by simp))
    (k c4 (by simp)) (k c5 (by simp))
  exact ⟨q1.trans (orMask5_eq_L ..), q3.trans (sameSuit5 ..).symm⟩

end Lemmas
