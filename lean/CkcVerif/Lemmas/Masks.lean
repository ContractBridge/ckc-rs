import CkcVerif.Lemmas.Perm
import CkcVerif.Spec.Straight
import CkcVerif.Lemmas.Sweep
import CkcVerif.Lemmas.Pop
/-! Rank masks: bit `i` of the OR of `1 <<< r` is set iff rank `i` is present; the straight test on masks -/
namespace Lemmas
open CK Spec

theorem testBit_orMaskL (rs : List Nat) (i : Nat) : (orMaskL rs).testBit i = decide (i ∈ rs) := by
  rw [orMaskL, testBit_foldl_or_map (1 <<< ·), Nat.zero_testBit, Bool.false_or, Bool.eq_iff_iff, List.any_eq_true]
  simp [Nat.one_shiftLeft, Nat.testBit_two_pow]

theorem orMaskL_lt (rs : List Nat) (h : ∀ r ∈ rs, r < 13) : orMaskL rs < 2 ^ 13 := by
  apply Nat.lt_pow_two_of_testBit
  intro i hi
  rw [testBit_orMaskL]
  simp only [decide_eq_false_iff_not]
  intro hm
  have := h i hm
  omega

/-- a mask below 2^13 equals the mask of `S ⊆ 0..12` iff the ranks present are exactly `S` -/
theorem mask_eq_iff (rs S : List Nat) (h : ∀ r ∈ rs, r < 13) (hS : ∀ r ∈ S, r < 13) :
    orMaskL rs = orMaskL S ↔ rankSetIs rs S = true := by
  unfold rankSetIs
  rw [List.all_eq_true]
  constructor
  · intro e i _
    have := congrArg (fun m => Nat.testBit m i) e
    simp only [testBit_orMaskL] at this
    simp [this]
  · intro hall
    apply Nat.eq_of_testBit_eq
    intro i
    rw [testBit_orMaskL, testBit_orMaskL]
    by_cases hi : i < 13
    · have := hall i (List.mem_range.mpr hi)
      simpa using this
    · have h1 : i ∉ rs := fun hm => hi (h i hm)
      have h2 : i ∉ S := fun hm => hi (hS i hm)
      simp [h1, h2]

/-- repaired `is_straight` on the OR-ed rank mask -/
def isStraightMask (m : Nat) : Bool :=
  (pc 32 m == 5 && tz32 m + lz32 m == Gen.straightPadding) || m == Gen.wheelOrBits

/-- the masks of the ten straight sets -/
def straightMasks : List Nat := [31, 62, 124, 248, 496, 992, 1984, 3968, 7936, 4111]

theorem straightMasks_eq : straightSets.map orMaskL = straightMasks ∧ Gen.wheelOrBits = orMaskL wheelSet := by decide

/-- K over all 8,192 rank masks.  The count runs over 13 bits, which is all a mask below 2^13 has (`pc_of_lt`): the
    32 bits of `count_ones` would double the cost of the pass. -/
theorem straightMaskChk_ok : ((List.range 8192).all fun m =>
    ((pc 13 m == 5 && tz32 m + lz32 m == Gen.straightPadding) || m == Gen.wheelOrBits) == straightMasks.contains m) = true := by
  decide +kernel

theorem isStraightMask_eq (m : Nat) (h : m < 8192) : isStraightMask m = straightMasks.contains m := by
  rw [isStraightMask, pc_of_lt (n := 13) h (by omega)]
  exact beq_iff_eq.mp (all_range straightMaskChk_ok h)

theorem straightSets_lt : ∀ S ∈ straightSets, ∀ r ∈ S, r < 13 := by decide

/-- for any list of ranks below 13 -/
theorem isStraightMask_ranks (rs : List Nat) (h : ∀ r ∈ rs, r < 13) :
    isStraightMask (orMaskL rs) = isStraightRanks rs ∧ (orMaskL rs == Gen.wheelOrBits) = isWheelRanks rs := by
  have mask_iff : ∀ S, (∀ r ∈ S, r < 13) → (orMaskL rs == orMaskL S) = rankSetIs rs S := fun S hS =>
    Bool.eq_iff_iff.mpr (beq_iff_eq.trans (mask_eq_iff rs S h hS))
  refine ⟨?_, ?_⟩
  · rw [isStraightMask_eq _ (orMaskL_lt rs h), ← straightMasks_eq.1, List.contains_eq_any_beq, List.any_map,
      isStraightRanks, Bool.eq_iff_iff, List.any_eq_true, List.any_eq_true]
    exact exists_congr fun S => and_congr_right fun hS => by
      rw [Function.comp_apply, mask_iff S (straightSets_lt S hS)]
  · rw [straightMasks_eq.2]; exact mask_iff _ (by decide)

end Lemmas
