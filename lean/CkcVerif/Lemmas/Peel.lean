import CkcVerif.Model.BitCard
import CkcVerif.Lemmas.Bits
/-! Set semantics of 64-bit card sets: membership is `testBit`; repeated peeling lists members in deck order -/
namespace Lemmas
open CK

/-- the membership test is a subset test -/
theorem has_iff_subset (x y : Nat) : has x y = true ↔ ∀ i, y.testBit i = true → x.testBit i = true := by
  rw [has, beq_iff_eq]
  constructor
  · intro h i hy
    rw [← h, Nat.testBit_and] at hy
    exact (Bool.and_eq_true_iff.mp hy).1
  · intro h
    apply Nat.eq_of_testBit_eq
    intro i
    rw [Nat.testBit_and]
    cases hy : y.testBit i
    · simp
    · simp [h i hy]

theorem has_two_pow (x i : Nat) : has x (2 ^ i) = x.testBit i := by
  rw [Bool.eq_iff_iff, has_iff_subset]
  refine ⟨fun h => h i Nat.testBit_two_pow_self, fun h k hk => ?_⟩
  rw [Nat.testBit_two_pow, decide_eq_true_eq] at hk
  exact hk ▸ h

theorem has_xor_two_pow_ne (x i j : Nat) (h : i ≠ j) : has (x ^^^ 2 ^ i) (2 ^ j) = has x (2 ^ j) := by
  rw [has_two_pow, has_two_pow, Nat.testBit_xor, Nat.testBit_two_pow]
  simp [h]

theorem has_xor_two_pow_self (x i : Nat) (h : x.testBit i = true) : has (x ^^^ 2 ^ i) (2 ^ i) = false := by
  rw [has_two_pow, Nat.testBit_xor, Nat.testBit_two_pow_self, h]; rfl

def pows (exps : List Nat) : List Nat := exps.map (fun i => 2 ^ i)

/-- the members of `x` among a deck of powers of two are the powers of its set exponents -/
theorem filter_pows (exps : List Nat) (x : Nat) : (pows exps).filter (has x) = pows (exps.filter x.testBit) := by
  unfold pows
  rw [List.filter_map]
  congr 2
  funext i
  exact has_two_pow x i

/-- the set without its member `e` keeps the other exponents -/
theorem filter_xor_two_pow {exps es : List Nat} (hnd : exps.Nodup) {x e : Nat}
    (h : exps.filter x.testBit = e :: es) : exps.filter (x ^^^ 2 ^ e).testBit = es := by
  have hm : e ∈ exps.filter x.testBit := h ▸ List.mem_cons_self
  have he : e ∉ es := (List.nodup_cons.mp (h ▸ hnd.sublist List.filter_sublist)).1
  have : exps.filter (x ^^^ 2 ^ e).testBit = (exps.filter x.testBit).filter (· != e) := by
    rw [List.filter_filter]
    apply List.filter_congr
    intro k _
    rw [Nat.testBit_xor, Nat.testBit_two_pow]
    by_cases hk : e = k
    · simp [← hk, (List.mem_filter.mp hm).2]
    · simp [hk, Ne.symm hk]
  rw [this, h, List.filter_cons_of_neg (by simp), List.filter_eq_self]
  intro k hk
  exact bne_iff_ne.mpr fun e' => he (e' ▸ hk)

/-- one peel: returns the first member in deck order and removes exactly it; or blank, set unchanged -/
theorem peel_step (exps : List Nat) (hnd : exps.Nodup) (x : Nat) :
    (((pows exps).filter (fun b => has x b) = []) ∧ peelWith (pows exps) x = (x, Gen.bcBlank)) ∨
    (∃ b m, (pows exps).filter (fun b => has x b) = b :: m ∧ peelWith (pows exps) x = (x ^^^ b, b) ∧
        (pows exps).filter (fun b' => has (x ^^^ b) b') = m) := by
  unfold peelWith
  rw [← List.head?_filter]
  cases hF : (pows exps).filter (has x) with
  | nil => exact .inl ⟨rfl, rfl⟩
  | cons b m =>
    refine .inr ⟨b, m, rfl, rfl, ?_⟩
    rw [filter_pows] at hF
    obtain ⟨e, es, he, rfl, rfl⟩ := List.map_eq_cons_iff.mp hF
    exact (filter_pows exps _).trans (congrArg pows (filter_xor_two_pow hnd he))

theorem take_append_replicate_succ (m : List Nat) (k : Nat) :
    (m ++ List.replicate (k + 1) 0).take k = (m ++ List.replicate k 0).take k := by
  rw [List.replicate_succ', ← List.append_assoc]
  apply List.take_append_of_le_length
  rw [List.length_append, List.length_replicate]; omega

theorem bcBlank_zero : Gen.bcBlank = 0 := by decide

/-- repeated peeling lists the members in deck order, then blank for ever -/
theorem peelIter_spec (exps : List Nat) (hnd : exps.Nodup) :
    ∀ (k x : Nat), (peelIterWith (pows exps) k x).1 =
      (((pows exps).filter (fun b => has x b)) ++ List.replicate k 0).take k := by
  intro k
  induction k with
  | zero => intro x; simp [peelIterWith]
  | succ k ih =>
    intro x
    simp only [peelIterWith]
    rcases peel_step exps hnd x with ⟨h1, h2⟩ | ⟨b, m, h1, h2, h3⟩
    · rw [h2, h1, ih x, h1, bcBlank_zero]
      simp [List.replicate_succ, List.take_succ_cons]
    · rw [h2, h1, ih (x ^^^ b), h3]
      rw [List.cons_append, List.take_succ_cons, take_append_replicate_succ]

end Lemmas
