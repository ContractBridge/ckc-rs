import CkcVerif.Model.Card
import CkcVerif.Spec.Layout
import CkcVerif.Lemmas.Lookup
/-! Facts about the 52 card words and the regenerated `filter` graph used by several properties -/
namespace Lemmas
open CK Spec

theorem filter_graph :
    Gen.filterPoints.length = 52 ∧ (∀ p ∈ Gen.filterPoints, p.1 = p.2 ∧ p.1 ∈ deckWords) ∧
    (∀ w ∈ deckWords, (w, w) ∈ Gen.filterPoints) ∧ (Gen.filterPoints.map (·.1)).Nodup := by decide

/-- of all words the card filter passes exactly the 52 cards and maps every other word to blank -/
theorem filter_eq (w : Nat) : filter w = if w ∈ deckWords then w else 0 := by
  obtain ⟨_, h2, h3, h4⟩ := filter_graph
  unfold filter
  split
  · next hw => rw [lookup_mem (h3 w hw) h4]; rfl
  · next hw => rw [lookup_none fun p hp (e : p.1 = w) => hw (e ▸ (h2 p hp).2)]; rfl

theorem blank_zero : Gen.blank = 0 ∧ Gen.noHandRankValue = 0 := by decide

theorem deckWords_facts : deckWords.Nodup ∧ (∀ w ∈ deckWords, 0 < w ∧ w < 2 ^ 29) := by decide

/-- the per-slot recogniser: a word passes the filter exactly when it is one of the 52 card words -/
theorem filter_ne_blank (w : Nat) : filter w ≠ Gen.blank ↔ w ∈ deckWords := by
  rw [filter_eq, blank_zero.1]
  split
  · next h => simpa [h] using Nat.ne_of_gt (deckWords_facts.2 w h).1
  · next h => simp [h]

/-- read a card back from its word: the rank nibble, and the position of the suit bit -/
def cardOfWord (w : Nat) : Card := ⟨(w >>> 8) &&& 0xF, Nat.log2 ((w >>> 12) &&& 0xF)⟩

theorem cardOfWord_word : ∀ r < 13, ∀ s < 4, cardOfWord (word r s) = ⟨r, s⟩ := by decide

theorem cardOfWord_deck : ∀ w ∈ deckWords, (cardOfWord w).ok ∧ (cardOfWord w).word = w := by decide

theorem word_mem_deck (c : Card) (h : c.ok) : c.word ∈ deckWords := by
  have : ∀ r < 13, ∀ s < 4, word r s ∈ deckWords := by decide
  exact this c.rank h.1 c.suit h.2

theorem mem_deck_word (w : Nat) (h : w ∈ deckWords) : ∃ c : Card, c.ok ∧ c.word = w :=
  ⟨cardOfWord w, cardOfWord_deck w h⟩

theorem word_pos (c : Card) (h : c.ok) : 0 < c.word ∧ c.word < 2 ^ 29 :=
  deckWords_facts.2 _ (word_mem_deck c h)

theorem word_inj (c d : Card) (hc : c.ok) (hd : d.ok) (h : c.word = d.word) : c = d :=
  (cardOfWord_word c.rank hc.1 c.suit hc.2).symm.trans
    ((congrArg cardOfWord h).trans (cardOfWord_word d.rank hd.1 d.suit hd.2))

/-- distinct cards have distinct words -/
theorem words_nodup (cs : List Card) (hok : ∀ c ∈ cs, c.ok) (hnd : cs.Nodup) : (cs.map Card.word).Nodup :=
  List.pairwise_map.mpr (hnd.imp_of_mem fun ha hb hne e => hne (word_inj _ _ (hok _ ha) (hok _ hb) e))

end Lemmas
