import CkcVerif.Model.BitCard
import CkcVerif.Lemmas.Valid
/-! Two-slot hands: validity of a pair of words, and `twoFromBc` read off the first two peeled bits -/
namespace Lemmas
open CK Spec

theorem isValid_pair {a b : Nat} (ha : a ∈ deckWords) (hb : b ∈ deckWords) (h : a ≠ b) :
    isValid [a, b] = true := by
  have hm : isCorrupt [a, b] = false := (isCorrupt_iff _).mpr (by simp [ha, hb])
  rw [isValid, hm, areUnique, bne_iff_ne.mpr h]; rfl

theorem isValid_blank (a : Nat) : isValid [a, 0] = false := by
  have : isCorrupt [a, 0] ≠ false := fun h =>
    absurd (deckWords_facts.2 0 ((isCorrupt_iff _).mp h 0 (by simp))).1 (by omega)
  simp [isValid, this]

theorem twoFromBc_eq {x b c : Nat} (hn : pc 64 x = 2) (hp : (peelIter 2 x).1 = [b, c]) :
    twoFromBc x = if isValid [fromBinaryCard b, fromBinaryCard c] then .ok (fromBinaryCard b) (fromBinaryCard c)
      else .invalidBinaryFormat := by
  simp only [peelIter, peelIterWith, List.cons.injEq, and_true] at hp
  simp [twoFromBc, numberOfCards, hn, peel, hp.1, hp.2]

end Lemmas
