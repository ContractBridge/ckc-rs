import CkcVerif.Lemmas.Sweep
import CkcVerif.Lemmas.RunLength
/-! Kernel fact **S**: `strength` is `key` on every feasible class (specification only, independent of the crate). -/
namespace Spec
open Lemmas

/-- `strength` as a function of the counts (the same cases, word for word): `strength rs f = strengthC (counts rs) f`
    by unfolding.  The pass below feeds it the run-length encoding of the class instead (`countsOn_eq_rle`), which the
    kernel computes three times faster than `counts`. -/
def strengthC (c : List (Nat × Nat)) (flush : Bool) : Nat :=
  match c.filter (·.2 == 4) ++ c.filter (·.2 == 3) ++ c.filter (·.2 == 2) ++ c.filter (·.2 == 1) with
  | [(q, 4), (k, 1)]                 => enc 7 [q, k]
  | [(t, 3), (p, 2)]                 => enc 6 [t, p]
  | [(t, 3), (a, 1), (b, 1)]         => enc 3 [t, a, b]
  | [(p, 2), (q, 2), (k, 1)]         => enc 2 [p, q, k]
  | [(p, 2), (a, 1), (b, 1), (c, 1)] => enc 1 [p, a, b, c]
  | [(a, 1), (b, 1), (c, 1), (d, 1), (e, 1)] =>
    match straightTop a b c d e, flush with
    | some t, true  => enc 8 [t]
    | none,   true  => enc 5 [a, b, c, d, e]
    | some t, false => enc 4 [t]
    | none,   false => enc 0 [a, b, c, d, e]
  | _ => 0

theorem chkS_ok :
    (allClasses fun r1 r2 r3 r4 r5 f => strengthC (rle [r1, r2, r3, r4, r5]) f == key r1 r2 r3 r4 r5 f) = true := by
  decide +kernel

theorem strength_eq_key {r1 r2 r3 r4 r5 : Nat} {f : Bool} (h : Feasible r1 r2 r3 r4 r5 f) :
    strength [r1, r2, r3, r4, r5] f = key r1 r2 r3 r4 r5 f := by
  rw [show strength [r1, r2, r3, r4, r5] f = strengthC (counts [r1, r2, r3, r4, r5]) f from rfl,
    counts_eq_rle h.sorted h.lt]
  exact beq_iff_eq.mp (allClasses_spec chkS_ok h)

end Spec
