import CkcVerif.Lemmas.Abs
import CkcVerif.Lemmas.Bits
/-!
# Bridge: the word-level evaluator on five real cards is the abstract evaluator on their ranks
-/
namespace Lemmas
open CK Spec

/-- the three field constants the evaluator uses are the documented ones (regenerated; `decide`) -/
theorem eval_consts : Gen.rankFlagShift = 16 ∧ Gen.suitFilter = 0xF000 ∧ Gen.rankPrimeFilter = 63 := by decide

/-- per-card facts, by enumeration of the 52 cards -/
theorem card_facts : ∀ r < 13, ∀ s < 4,
    let w := (Card.mk r s).word
    w >>> 16 = 1 <<< r ∧ w &&& 63 = prime r ∧ w &&& 0xF000 = 1 <<< (12 + s) ∧ w < 2 ^ 32 := by
  decide

theorem suits_and_fin : ∀ s1 s2 s3 s4 s5 : Fin 4,
    (((1 <<< (12 + s1.val)) &&& (1 <<< (12 + s2.val)) &&& (1 <<< (12 + s3.val)) &&& (1 <<< (12 + s4.val)) &&&
        (1 <<< (12 + s5.val)) ≠ 0)
      ↔ (s1.val = s2.val ∧ s2.val = s3.val ∧ s3.val = s4.val ∧ s4.val = s5.val)) := by
  decide

theorem suits_and (s1 s2 s3 s4 s5 : Nat) (h1 : s1 < 4) (h2 : s2 < 4) (h3 : s3 < 4) (h4 : s4 < 4) (h5 : s5 < 4) :
    (((1 <<< (12 + s1)) &&& (1 <<< (12 + s2)) &&& (1 <<< (12 + s3)) &&& (1 <<< (12 + s4)) &&& (1 <<< (12 + s5)) ≠ 0)
      ↔ (s1 = s2 ∧ s2 = s3 ∧ s3 = s4 ∧ s4 = s5)) :=
  suits_and_fin ⟨s1, h1⟩ ⟨s2, h2⟩ ⟨s3, h3⟩ ⟨s4, h4⟩ ⟨s5, h5⟩

def allSame (s1 s2 s3 s4 s5 : Nat) : Bool := s1 == s2 && s2 == s3 && s3 == s4 && s4 == s5

/-- the three quantities the evaluator computes, for five real cards in any order -/
theorem five_quantities (c1 c2 c3 c4 c5 : Card) (h1 : c1.ok) (h2 : c2.ok) (h3 : c3.ok) (h4 : c4.ok) (h5 : c5.ok) :
    let h := [c1.word, c2.word, c3.word, c4.word, c5.word]
    orRankBits h = orMask5 c1.rank c2.rank c3.rank c4.rank c5.rank ∧
    multiplyPrimes h = prod5 c1.rank c2.rank c3.rank c4.rank c5.rank ∧
    isFlush h = allSame c1.suit c2.suit c3.suit c4.suit c5.suit := by
  obtain ⟨f11, f12, f13, _⟩ := card_facts c1.rank h1.1 c1.suit h1.2
  obtain ⟨f21, f22, f23, _⟩ := card_facts c2.rank h2.1 c2.suit h2.2
  obtain ⟨f31, f32, f33, _⟩ := card_facts c3.rank h3.1 c3.suit h3.2
  obtain ⟨f41, f42, f43, _⟩ := card_facts c4.rank h4.1 c4.suit h4.2
  obtain ⟨f51, f52, f53, _⟩ := card_facts c5.rank h5.1 c5.suit h5.2
  obtain ⟨e1, e2, e3⟩ := eval_consts
  refine ⟨?_, ?_, ?_⟩
  · simp only [orRankBits, orBits, e1, or_shift, f11, f21, f31, f41, f51, orMask5]
  · simp only [multiplyPrimes, getRankPrime, e3, f12, f22, f32, f42, f52, prod5]
  · rw [Bool.eq_iff_iff]
    simp only [isFlush, andBits, e2, and_mask, f13, f23, f33, f43, f53, bne_iff_ne,
      suits_and _ _ _ _ _ h1.2 h2.2 h3.2 h4.2 h5.2, allSame, Bool.and_eq_true, beq_iff_eq, and_assoc]

/-- **bridge**: for any five real cards (distinct or not, any order) -/
theorem eval5_cards (c1 c2 c3 c4 c5 : Card) (h1 : c1.ok) (h2 : c2.ok) (h3 : c3.ok) (h4 : c4.ok) (h5 : c5.ok) :
    handRankValue5 packed [c1.word, c2.word, c3.word, c4.word, c5.word] =
      evalAbs c1.rank c2.rank c3.rank c4.rank c5.rank (allSame c1.suit c2.suit c3.suit c4.suit c5.suit) := by
  obtain ⟨q1, q2, q3⟩ := five_quantities c1 c2 c3 c4 c5 h1 h2 h3 h4 h5
  unfold handRankValue5 evalAbs
  rw [q1, q2, q3]

end Lemmas
