import CkcVerif.Model.Five
/-! The repaired binary search returns normally for every key -/
namespace Lemmas
open CK

theorem products_len : Gen.productsLen = 4888 ∧ Gen.valuesLen = 4888 ∧ Gen.flushesLen = 7937 ∧
    Gen.unique5Len = 7937 := by decide

theorem products_some (i : Nat) (h : i < 4888) : ∃ p, packed.products i = some p := by
  simp [packed, products_len.1, h]

theorem values_some (i : Nat) (h : i < 4888) : ∃ p, packed.values i = some p := by
  simp [packed, products_len.2.1, h]

theorem flushes_some (i : Nat) (h : i < 7937) : ∃ p, packed.flushes i = some p := by
  simp [packed, products_len.2.2.1, h]

theorem unique5_some (i : Nat) (h : i < 7937) : packed.unique5 i = some (get 16 Gen.unique5P i) := by
  simp [packed, products_len.2.2.2, h]

/-- product at index `i` of the regenerated table -/
def P (i : Nat) : Nat := get 32 Gen.productsP i

theorem products_eq (i : Nat) (h : i < 4888) : packed.products i = some (P i) := by
  simp [packed, products_len.1, h, P]

/-- a strictly increasing table is compared by comparing indices -/
theorem lt_iff_of_strict {n : Nat} {P : Nat → Nat} (hs : ∀ a b, a < b → b < n → P a < P b) {a b : Nat}
    (ha : a < n) (hb : b < n) : P a < P b ↔ a < b := by
  refine ⟨fun h => ?_, fun h => hs a b h hb⟩
  false_or_by_contra
  rcases Nat.lt_or_eq_of_le (Nat.le_of_not_lt ‹_›) with h' | h'
  · have := hs b a h' ha; omega
  · rw [h'] at h; omega

/-- **loop invariant.**  On `[low, high]` below 4,888, with fuel for the halvings, the loop returns an in-range index
    (whatever the table holds); if the table is strictly increasing, that is the index of the key wherever the key
    occurs in `[low, high]`. -/
theorem findGo_spec (key : Nat) : ∀ (fuel low high : Nat), high < 4888 → high + 1 - low < 2 ^ fuel →
    ∃ j, findGo packed key (fuel + 1) low high = some j ∧ j < 4888 ∧
      ((∀ a b, a < b → b < 4888 → P a < P b) → ∀ i, low ≤ i → i ≤ high → P i = key → j = i) := by
  intro fuel
  induction fuel with
  | zero =>
    intro low high _ h2
    have : ¬ low ≤ high := by simp at h2; omega
    exact ⟨0, by simp [findGo, this], by omega, fun _ i _ _ _ => by omega⟩
  | succ fuel ih =>
    intro low high h1 h2
    unfold findGo
    by_cases hle : low ≤ high
    · have hm : (high + low) / 2 < 4888 := by omega
      have hpow : 2 ^ (fuel + 1) = 2 * 2 ^ fuel := by rw [Nat.pow_succ]; omega
      simp only [hle, if_true, Nat.shiftRight_eq_div_pow, Nat.pow_one, products_eq _ hm]
      by_cases hlt : key < P ((high + low) / 2)
      · simp only [hlt, if_true]
        by_cases hz : (high + low) / 2 = 0
        · refine ⟨0, by simp [hz], by omega, fun hs i _ h4 hk => ?_⟩
          have := (lt_iff_of_strict hs (by omega) hm).mp (hk ▸ hlt); omega
        · simp only [hz, if_false]
          obtain ⟨j, e, hj, hf⟩ := ih low ((high + low) / 2 - 1) (by omega) (by omega)
          refine ⟨j, e, hj, fun hs i h3 h4 hk => hf hs i h3 ?_ hk⟩
          have := (lt_iff_of_strict hs (by omega) hm).mp (hk ▸ hlt); omega
      · simp only [hlt, if_false]
        by_cases hgt : key > P ((high + low) / 2)
        · simp only [hgt, if_true]
          obtain ⟨j, e, hj, hf⟩ := ih ((high + low) / 2 + 1) high h1 (by omega)
          refine ⟨j, e, hj, fun hs i h3 h4 hk => hf hs i ?_ h4 hk⟩
          have := (lt_iff_of_strict hs hm (by omega)).mp (hk ▸ hgt); omega
        · simp only [hgt, if_false]
          refine ⟨_, rfl, hm, fun hs i _ h4 hk => ?_⟩
          have := lt_iff_of_strict hs hm (b := i) (by omega)
          have := lt_iff_of_strict hs (a := i) (by omega) hm
          omega
    · exact ⟨0, by simp [hle], by omega, fun _ i _ _ _ => by omega⟩

theorem findGo_total (key : Nat) : ∀ (fuel low high : Nat), high < 4888 → high + 1 - low < 2 ^ fuel →
    ∃ j, findGo packed key (fuel + 1) low high = some j ∧ j < 4888 := fun fuel low high h1 h2 =>
  have ⟨j, e, hj, _⟩ := findGo_spec key fuel low high h1 h2
  ⟨j, e, hj⟩

/-- the search returns an in-range index for **every** key; 14 units of fuel are never exhausted -/
theorem findInProducts_total (key : Nat) : ∃ j, findInProducts packed key = some j ∧ j < 4888 := by
  unfold findInProducts
  apply findGo_total
  · omega
  · decide

theorem notUniqueKey_total (key : Nat) : ∃ v, notUniqueKey packed key = some v := by
  unfold notUniqueKey
  obtain ⟨j, hj, hlt⟩ := findInProducts_total key
  rw [hj]
  obtain ⟨p, hp⟩ := products_some j hlt
  simp only
  rw [hp]
  simp only
  by_cases h : (p != key) = true
  · rw [if_pos h]; exact ⟨_, rfl⟩
  · rw [if_neg h]; exact values_some j hlt

end Lemmas
