import CkcVerif.Lemmas.Sweep
import CkcVerif.Model.Sort
/-!
# Strength determines the class (specification only)

`classOfKey` rebuilds the descending rank tuple and the flush flag from a strength value; the kernel
checks that it inverts `key` on all 7,462 feasible classes, hence `key` is injective on them: two
hands tie only if they have the same ranks and the same flush-ness.
-/
namespace Lemmas
open CK Spec

def digit (s k : Nat) : Nat := s / 13 ^ k % 13

/-- the class with strength `s` -/
def classOfKey (s : Nat) : List Nat × Bool :=
  let cat := s / 13 ^ 5
  let a := digit s 4; let b := digit s 3; let c := digit s 2; let d := digit s 1; let e := digit s 0
  let straight (t : Nat) : List Nat := if t == 3 then [12, 3, 2, 1, 0] else [t, t - 1, t - 2, t - 3, t - 4]
  match cat with
  | 8 => (straight a, true)
  | 7 => (sortDesc [a, a, a, a, b], false)
  | 6 => (sortDesc [a, a, a, b, b], false)
  | 5 => ([a, b, c, d, e], true)
  | 4 => (straight a, false)
  | 3 => (sortDesc [a, a, a, b, c], false)
  | 2 => (sortDesc [a, a, b, b, c], false)
  | 1 => (sortDesc [a, a, b, c, d], false)
  | _ => ([a, b, c, d, e], false)

theorem chkKeyInv_ok :
    (allClasses fun r1 r2 r3 r4 r5 f => classOfKey (key r1 r2 r3 r4 r5 f) == ([r1, r2, r3, r4, r5], f)) = true := by
  decide +kernel

theorem classOfKey_key {r1 r2 r3 r4 r5 : Nat} {f : Bool} (h : Feasible r1 r2 r3 r4 r5 f) :
    classOfKey (key r1 r2 r3 r4 r5 f) = ([r1, r2, r3, r4, r5], f) :=
  beq_iff_eq.mp (allClasses_spec chkKeyInv_ok h)

/-- `key` is injective on feasible classes -/
theorem key_injective {r1 r2 r3 r4 r5 : Nat} {f : Bool} {q1 q2 q3 q4 q5 : Nat} {g : Bool}
    (hc : Feasible r1 r2 r3 r4 r5 f) (hd : Feasible q1 q2 q3 q4 q5 g)
    (h : key r1 r2 r3 r4 r5 f = key q1 q2 q3 q4 q5 g) :
    r1 = q1 ∧ r2 = q2 ∧ r3 = q3 ∧ r4 = q4 ∧ r5 = q5 ∧ f = g := by
  have a := classOfKey_key hc
  have b := classOfKey_key hd
  rw [h, b] at a
  simp only [Prod.mk.injEq, List.cons.injEq, and_true] at a
  obtain ⟨⟨e1, e2, e3, e4, e5⟩, e6⟩ := a
  exact ⟨e1.symm, e2.symm, e3.symm, e4.symm, e5.symm, e6.symm⟩

end Lemmas
