import CkcVerif.Lemmas.Bridge
import CkcVerif.Spec.Hand
/-! **W2** (specification only): every feasible class is realised by five distinct real cards. -/
namespace Lemmas
open CK Spec

/-- A flush class takes one suit: its ranks are distinct.  Any other class takes suits ♣ ♦ ♥ ♠ ♣ down the ranks: only
    the first and the last card share a suit, and their ranks differ because the class is not five of a kind. -/
theorem class_realised {r1 r2 r3 r4 r5 : Nat} {f : Bool} (h : Feasible r1 r2 r3 r4 r5 f) :
    ∃ cs, IsHand 5 cs ∧ handRankValue5 packed (words cs) = evalAbs r1 r2 r3 r4 r5 f := by
  obtain ⟨h1, h2, h3, h4, h5, hne, hf⟩ := h
  have key : ∀ s1 s2 s3 s4 s5 : Nat, s1 < 4 → s2 < 4 → s3 < 4 → s4 < 4 → s5 < 4 → allSame s1 s2 s3 s4 s5 = f →
      [Card.mk r1 s1, ⟨r2, s2⟩, ⟨r3, s3⟩, ⟨r4, s4⟩, ⟨r5, s5⟩].Nodup →
      ∃ cs, IsHand 5 cs ∧ handRankValue5 packed (words cs) = evalAbs r1 r2 r3 r4 r5 f := by
    intro s1 s2 s3 s4 s5 l1 l2 l3 l4 l5 hs hnd
    refine ⟨_, ⟨rfl, hnd, ?_⟩, hs ▸ eval5_cards ⟨r1, s1⟩ ⟨r2, s2⟩ ⟨r3, s3⟩ ⟨r4, s4⟩ ⟨r5, s5⟩ ?_ ?_ ?_ ?_ ?_⟩
    · simp only [List.mem_cons, List.not_mem_nil, or_false, forall_eq_or_imp, forall_eq, Card.ok]
      omega
    all_goals (simp only [Card.ok]; omega)
  cases f with
  | true =>
    obtain ⟨n1, n2, n3, n4⟩ := hf rfl
    refine key 0 0 0 0 0 (by omega) (by omega) (by omega) (by omega) (by omega) rfl ?_
    simp
    omega
  | false =>
    refine key 0 1 2 3 0 (by omega) (by omega) (by omega) (by omega) (by omega) rfl ?_
    simpa using hne

end Lemmas
