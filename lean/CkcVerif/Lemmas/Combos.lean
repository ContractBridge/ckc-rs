import CkcVerif.Spec.Combos
/-! facts about `Spec.combos`: it enumerates exactly the k-element sublists -/
namespace Lemmas
open Spec

theorem combos_map {α β : Type} (f : α → β) : ∀ (k : Nat) (l : List α),
    combos k (l.map f) = (combos k l).map (List.map f)
  | 0, _ => by simp [combos]
  | _ + 1, [] => by simp [combos]
  | k + 1, x :: xs => by
    simp only [List.map_cons, combos, List.map_append, List.map_map]
    rw [combos_map f k xs, combos_map f (k + 1) xs]
    simp only [List.map_map]
    congr 1

theorem mem_combos {α : Type} : ∀ (k : Nat) (l s : List α),
    s ∈ combos k l ↔ s.Sublist l ∧ s.length = k
  | 0, l, s => by
    simp only [combos, List.mem_singleton]
    constructor
    · intro h; subst h; exact ⟨List.nil_sublist l, rfl⟩
    · intro ⟨_, h⟩; exact List.eq_nil_of_length_eq_zero h
  | k + 1, [], s => by
    simp only [combos, List.not_mem_nil, false_iff]
    intro ⟨h1, h2⟩
    have := List.eq_nil_of_sublist_nil h1
    subst this; simp at h2
  | k + 1, x :: xs, s => by
    simp only [combos, List.mem_append, List.mem_map]
    constructor
    · rintro (⟨t, ht, rfl⟩ | h)
      · have := (mem_combos k xs t).mp ht
        exact ⟨List.Sublist.cons_cons x this.1, by simp [this.2]⟩
      · have := (mem_combos (k + 1) xs s).mp h
        exact ⟨List.Sublist.cons x this.1, this.2⟩
    · intro ⟨h1, h2⟩
      cases h1 with
      | cons _ h => right; exact (mem_combos (k + 1) xs s).mpr ⟨h, h2⟩
      | cons_cons _ h =>
        rename_i t
        left
        refine ⟨t, (mem_combos k xs t).mpr ⟨h, ?_⟩, rfl⟩
        simpa using h2

/-- sub-hands of a sub-hand are sub-hands of the whole hand -/
theorem combos_sub {α : Type} (k : Nat) (g l s : List α) (hg : g.Sublist l) (hs : s ∈ combos k g) :
    s ∈ combos k l := by
  rw [mem_combos] at hs ⊢
  exact ⟨hs.1.trans hg, hs.2⟩

/-- a row of slot indices drawn from `0..n-1` -/
theorem combos_range {k n : Nat} {row : List Nat} (h : row ∈ combos k (List.range n)) :
    row.length = k ∧ ∀ i ∈ row, i < n :=
  have ⟨hs, hl⟩ := (mem_combos k _ row).mp h
  ⟨hl, fun _ hi => List.mem_range.mp (hs.subset hi)⟩

theorem range_map_getD (ws : List Nat) : (List.range ws.length).map (fun i => ws.getD i 0) = ws := by
  apply List.ext_getElem
  · simp
  · intro i h1 h2
    simp at h1
    simp [List.getD_eq_getElem?_getD, h1]

end Lemmas
