import CkcVerif.Lemmas.Abs
import CkcVerif.Lemmas.Sweep
/-! Kernel fact **B**: the inverse table is strictly decreasing and non-empty along v = 1..7462. -/
namespace Lemmas

def checkB : Bool := (List.range 7461).all fun k => decide (slot (k + 1) > slot (k + 2)) && decide (slot (k + 2) > 0)

theorem checkB_ok : checkB = true := by decide +kernel

theorem slot_adj (k : Nat) (hk : k < 7461) : slot (k + 1) > slot (k + 2) ∧ slot (k + 2) > 0 := by
  simpa using all_range checkB_ok hk

/-- hence strictly decreasing over the whole range 1..7462 -/
theorem slot_strict (i : Nat) (hi : 1 ≤ i) : ∀ j, i < j → j ≤ 7462 → slot i > slot j := by
  intro j
  induction j with
  | zero => intro h; omega
  | succ j ih =>
    intro hij hj
    have hadj := (slot_adj (j - 1) (by omega)).1
    have e1 : j - 1 + 1 = j := by omega
    have e2 : j - 1 + 2 = j + 1 := by omega
    rw [e1, e2] at hadj
    by_cases h : i = j
    · subst h; exact hadj
    · have := ih (by omega) (by omega); omega

end Lemmas
