import CkcVerif.Lemmas.Abs
import CkcVerif.Lemmas.Sweep
/-! Kernel fact **A**: every feasible class evaluates (without panic) to a value in 1..7462 whose
    inverse-table cell holds that class's strength key. -/
namespace Lemmas
open CK Spec

def checkA : Bool :=
  (List.range 13).all fun r1 => (List.range (r1 + 1)).all fun r2 => (List.range (r2 + 1)).all fun r3 =>
  (List.range (r3 + 1)).all fun r4 => (List.range (r4 + 1)).all fun r5 =>
    (r1 == r5) || (okClass r1 r2 r3 r4 r5 false &&
      ((r1 == r2 || r2 == r3 || r3 == r4 || r4 == r5) || okClass r1 r2 r3 r4 r5 true))

theorem checkA_ok : checkA = true := by decide +kernel

theorem classA {r1 r2 r3 r4 r5 : Nat} {f : Bool} (h : Feasible r1 r2 r3 r4 r5 f) :
    okClass r1 r2 r3 r4 r5 f = true :=
  allClasses_spec (p := okClass) checkA_ok h

end Lemmas
