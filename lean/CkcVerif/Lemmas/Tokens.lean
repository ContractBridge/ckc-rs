import CkcVerif.Model.Parse
/-!
# `tokens` is splitting at whitespace

`str::split_whitespace` is `split(char::is_whitespace)` with the empty pieces dropped.  `tokens` is the same thing
said with core's `List.splitOnP`, whose lemmas then describe it: a whitespace-free run is one piece, and splitting
at a separator splits the list of pieces.  Those two equations and `tokens [] = []` determine `tokens` on every
string (induction on the number of whitespace characters): the tokens are the maximal whitespace-free runs, in order.
-/
namespace Lemmas
open CK

/-- `tokensGo` and `List.splitOnPPrepend` read the text in step; only the empty runs are not emitted -/
theorem tokensGo_eq_splitOnP (s cur : List Nat) :
    tokensGo s cur = (List.splitOnPPrepend isWhitespace s cur).filter (!·.isEmpty) := by
  fun_induction tokensGo s cur <;>
    simp_all [List.splitOnPPrepend_cons_eq_if, List.splitOnP_cons_eq_if_splitOnPPrepend]

theorem tokens_eq_splitOnP (s : List Nat) : tokens s = (s.splitOnP isWhitespace).filter (!·.isEmpty) :=
  tokensGo_eq_splitOnP s []

theorem tokens_no_ws (s : List Nat) (h : ∀ c ∈ s, isWhitespace c = false) (hne : s ≠ []) : tokens s = [s] := by
  simp [tokens_eq_splitOnP, List.splitOnP_eq_singleton h, hne]

theorem tokens_append_ws (a : List Nat) (w : Nat) (b : List Nat) (hw : isWhitespace w = true) :
    tokens (a ++ w :: b) = tokens a ++ tokens b := by
  simp only [tokens_eq_splitOnP, List.splitOnP_append_cons a b hw, List.filter_append]

theorem tokensGo_flatten (s cur : List Nat) :
    (tokensGo s cur).flatten = cur.reverse ++ s.filter (fun c => !isWhitespace c) := by
  fun_induction tokensGo s cur <;> simp_all

/-- the characters of the tokens, in order, are the non-whitespace characters of the text -/
theorem tokens_flatten (s : List Nat) : (tokens s).flatten = s.filter (fun c => !isWhitespace c) :=
  tokensGo_flatten s []

/-- every token is a non-empty run of non-whitespace characters -/
theorem tokens_spec (s : List Nat) : ∀ t ∈ tokens s, t ≠ [] ∧ ∀ c ∈ t, isWhitespace c = false := by
  intro t ht
  refine ⟨?_, fun c hc => ?_⟩
  · rw [tokens_eq_splitOnP] at ht
    simpa using (List.mem_filter.mp ht).2
  · have : c ∈ (tokens s).flatten := List.mem_flatten.mpr ⟨t, ht, hc⟩
    rw [tokens_flatten] at this
    simpa using (List.mem_filter.mp this).2

end Lemmas
