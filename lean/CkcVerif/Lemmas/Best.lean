import CkcVerif.Lemmas.Entry
import CkcVerif.Lemmas.Combos
/-! The best-of loop of `Six` / `Seven`: a pure fold over (value, hand) candidates, and its minimum -/
namespace Lemmas
open CK Spec

/-- the loop body on an already evaluated candidate -/
def step (acc cand : Nat × List Nat) : Nat × List Nat :=
  if acc.1 == 0 || (cand.1 != 0 && cand.1 < acc.1) then cand else acc
def best (cands : List (Nat × List Nat)) : Nat × List Nat := cands.foldl step (0, [0, 0, 0, 0, 0])

/-- one iteration keeps the invariant: the accumulator is a least candidate seen so far (or nothing was seen) -/
theorem step_inv {seen : List (Nat × List Nat)} {acc c : Nat × List Nat} (hs : ∀ d ∈ seen, d.1 ≠ 0) (hc : c.1 ≠ 0)
    (h : (seen = [] ∧ acc.1 = 0) ∨ (acc ∈ seen ∧ ∀ d ∈ seen, acc.1 ≤ d.1)) :
    step acc c ∈ seen ++ [c] ∧ ∀ d ∈ seen ++ [c], (step acc c).1 ≤ d.1 := by
  rcases h with ⟨rfl, h0⟩ | ⟨hm, hmin⟩
  · simp [step, h0]
  · have ha := hs acc hm
    unfold step
    by_cases hlt : c.1 < acc.1
    · rw [if_pos (by simp [hlt, hc])]
      refine ⟨by simp, fun d hd => ?_⟩
      rcases List.mem_append.mp hd with h | h
      · have := hmin d h; omega
      · rw [List.mem_singleton.mp h]; omega
    · rw [if_neg (by simp [hlt, ha])]
      refine ⟨List.mem_append_left _ hm, fun d hd => ?_⟩
      rcases List.mem_append.mp hd with h | h
      · exact hmin d h
      · rw [List.mem_singleton.mp h]; omega

theorem foldl_step_inv (cands : List (Nat × List Nat)) (hpos : ∀ c ∈ cands, c.1 ≠ 0) :
    ∀ (seen : List (Nat × List Nat)) (acc : Nat × List Nat),
      (∀ c ∈ seen, c.1 ≠ 0) →
      ((seen = [] ∧ acc.1 = 0) ∨ (acc ∈ seen ∧ ∀ c ∈ seen, acc.1 ≤ c.1)) →
      let r := cands.foldl step acc
      ((seen ++ cands = [] ∧ r.1 = 0) ∨ (r ∈ seen ++ cands ∧ ∀ c ∈ seen ++ cands, r.1 ≤ c.1)) := by
  induction cands with
  | nil => intro seen acc _ h; simpa using h
  | cons c cs ih =>
    intro seen acc hs h
    have hc := hpos c List.mem_cons_self
    have := ih (fun d hd => hpos d (List.mem_cons_of_mem _ hd)) (seen ++ [c]) (step acc c)
      (fun d hd => (List.mem_append.mp hd).elim (hs d) fun h => List.mem_singleton.mp h ▸ hc)
      (Or.inr (step_inv hs hc h))
    simpa [List.append_assoc] using this

/-- on a non-empty list of candidates with non-zero values the loop returns a candidate of least value -/
theorem best_min (cands : List (Nat × List Nat)) (hne : cands ≠ []) (hpos : ∀ c ∈ cands, c.1 ≠ 0) :
    best cands ∈ cands ∧ ∀ c ∈ cands, (best cands).1 ≤ c.1 := by
  have := foldl_step_inv cands hpos [] (0, [0, 0, 0, 0, 0]) (by simp) (Or.inl ⟨rfl, rfl⟩)
  simp only [List.nil_append] at this
  rcases this with ⟨h1, _⟩ | h
  · exact absurd h1 hne
  · exact h

/-- if every row picks a hand and every picked hand evaluates (as given by `f`), the model's loop (with
    panics as `none`) is the pure fold over the evaluated candidates -/
theorem foldl_stepBest_eq (T : Tables) (ws : List Nat) (f : List Nat → Nat × List Nat) :
    ∀ (perms : List (List Nat)) (acc : Nat × List Nat),
      (∀ row ∈ perms, pick ws row = some (f row).2 ∧ handRankValue5 T (f row).2 = some (f row).1) →
      perms.foldl (stepBest T ws) (some acc) = some ((perms.map f).foldl step acc) := by
  intro perms
  induction perms with
  | nil => intro acc _; rfl
  | cons row rest ih =>
    intro acc h
    obtain ⟨hp, hv⟩ := h row List.mem_cons_self
    rw [List.foldl_cons, List.map_cons, List.foldl_cons]
    have : stepBest T ws (some acc) row = some (step acc (f row)) := by
      unfold stepBest step
      simp only [hp, hv]
      split <;> rfl
    rw [this]
    exact ih (step acc (f row)) (fun r hr => h r (List.mem_cons_of_mem _ hr))

/-- total slot selection: what `pick` returns when every index is in range -/
def pickD (ws row : List Nat) : List Nat := row.map (fun i => ws.getD i 0)

theorem pick_eq_pickD (ws row : List Nat) (hl : row.length = 5) (hr : ∀ i ∈ row, i < ws.length) :
    pick ws row = some (pickD ws row) := by
  match row, hl with
  | [i0, i1, i2, i3, i4], _ =>
    have h0 := hr i0 (by simp); have h1 := hr i1 (by simp); have h2 := hr i2 (by simp)
    have h3 := hr i3 (by simp); have h4 := hr i4 (by simp)
    unfold pick pickD
    simp [h0, h1, h2, h3, h4, List.getD_eq_getElem?_getD]

/-- the candidates examined by the loop over `combos 5 (range n)` are exactly the 5-element sublists -/
theorem candidates (ws : List Nat) : (combos 5 (List.range ws.length)).map (pickD ws) = combos 5 ws := by
  have := combos_map (fun i => ws.getD i 0) 5 (List.range ws.length)
  rw [range_map_getD] at this
  rw [this]
  rfl

theorem pickD_mem {ws row : List Nat} (hr : ∀ i ∈ row, i < ws.length) : ∀ x ∈ pickD ws row, x ∈ ws := by
  intro x hx
  obtain ⟨i, hi, rfl⟩ := List.mem_map.mp hx
  rw [List.getD_eq_getElem?_getD, List.getElem?_eq_getElem (hr i hi)]
  exact List.getElem_mem _

/-- hands paired with their values: the candidates of the loop -/
def valued (val : List Nat → Nat) (hands : List (List Nat)) : List (Nat × List Nat) := hands.map fun h => (val h, h)

/-- **the loop, with panics, is the pure fold** when every row is five in-range indices and every picked hand
    evaluates (to `val` of it) -/
theorem handRankValueAndHandN_eq (T : Tables) (ws : List Nat) (val : List Nat → Nat) (perms : List (List Nat))
    (hrows : ∀ row ∈ perms, row.length = 5 ∧ ∀ i ∈ row, i < ws.length)
    (hval : ∀ c ∈ perms.map (pickD ws), handRankValue5 T c = some (val c)) :
    handRankValueAndHandN T perms ws =
      some ((best (valued val (perms.map (pickD ws)))).1, sortDesc (best (valued val (perms.map (pickD ws)))).2) := by
  unfold handRankValueAndHandN
  rw [foldl_stepBest_eq T ws (fun row => (val (pickD ws row), pickD ws row)) perms _ fun row hr =>
    ⟨pick_eq_pickD ws row (hrows row hr).1 (hrows row hr).2, hval _ (List.mem_map_of_mem hr)⟩, valued, List.map_map]
  rfl

/-- … and when the values are non-zero its result is a picked hand of least value, sorted -/
theorem bestOf_spec (T : Tables) (ws : List Nat) (val : List Nat → Nat) (perms : List (List Nat))
    (hrows : ∀ row ∈ perms, row.length = 5 ∧ ∀ i ∈ row, i < ws.length)
    (hval : ∀ c ∈ perms.map (pickD ws), handRankValue5 T c = some (val c) ∧ val c ≠ 0) (hne : perms ≠ []) :
    ∃ b ∈ perms.map (pickD ws), handRankValueAndHandN T perms ws = some (val b, sortDesc b) ∧
      ∀ c ∈ perms.map (pickD ws), val b ≤ val c := by
  obtain ⟨hm, hmin⟩ := best_min (valued val (perms.map (pickD ws))) (by simpa [valued] using hne) fun c hc => by
    obtain ⟨h, hh, rfl⟩ := List.mem_map.mp hc
    exact (hval h hh).2
  obtain ⟨b, hb, e⟩ := List.mem_map.mp hm
  refine ⟨b, hb, ?_, fun c hc => ?_⟩
  · rw [handRankValueAndHandN_eq T ws val perms hrows fun c hc => (hval c hc).1, ← e]
  · simpa [← e] using hmin (val c, c) (List.mem_map_of_mem (f := fun h => (val h, h)) hc)

end Lemmas
