/-! Bit-level facts about `Nat` shared by several properties -/
namespace Lemmas

/-- a field placed above a word that fits below it: OR is addition -/
theorem or_shiftLeft {w n : Nat} (hw : w < 2 ^ n) (m : Nat) : w ||| m <<< n = m * 2 ^ n + w := by
  rw [Nat.or_comm, ← Nat.shiftLeft_add_eq_or_of_lt hw, Nat.shiftLeft_eq]

theorem or_shift (a b c d e : Nat) :
    (a ||| b ||| c ||| d ||| e) >>> 16 = (a >>> 16) ||| (b >>> 16) ||| (c >>> 16) ||| (d >>> 16) ||| (e >>> 16) := by
  simp [Nat.shiftRight_or_distrib]

theorem and_mask (a b c d e m : Nat) :
    (a &&& b &&& c &&& d &&& e) &&& m = (a &&& m) &&& (b &&& m) &&& (c &&& m) &&& (d &&& m) &&& (e &&& m) := by
  ac_rfl

/-- OR-folding: a bit is set in the fold iff it is set in the seed or in some element's image -/
theorem testBit_foldl_or_map (f : Nat → Nat) (ws : List Nat) (acc i : Nat) :
    (ws.foldl (fun a w => a ||| f w) acc).testBit i = (acc.testBit i || ws.any (fun w => (f w).testBit i)) := by
  induction ws generalizing acc with
  | nil => simp
  | cons w ws ih =>
    rw [List.foldl_cons, ih, Nat.testBit_or, List.any_cons, Bool.or_assoc]

end Lemmas
