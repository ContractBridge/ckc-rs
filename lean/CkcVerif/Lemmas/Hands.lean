import CkcVerif.Lemmas.Valid
import CkcVerif.Lemmas.Combos
import CkcVerif.Spec.Hand
/-! Hands of distinct real cards (`IsHand`): closure under rearrangement and sub-hands; their word lists are exactly the
    valid slot lists -/
namespace Spec
open CK Lemmas

variable {n : Nat} {cs : List Card}

theorem IsHand.length_words (h : IsHand n cs) : (words cs).length = n := by
  rw [words, List.length_map, h.len]

theorem IsHand.perm {cs' : List Card} (h : IsHand n cs) (p : cs.Perm cs') : IsHand n cs' :=
  ⟨p.length_eq ▸ h.len, p.nodup_iff.mp h.nodup, fun c hc => h.ok c (p.mem_iff.mpr hc)⟩

theorem IsHand.sublist {g : List Card} (h : IsHand n cs) (hg : g.Sublist cs) : IsHand g.length g :=
  ⟨rfl, hg.nodup h.nodup, fun c hc => h.ok c (hg.subset hc)⟩

theorem IsHand.rank_lt (h : IsHand n cs) : ∀ r ∈ ranks cs, r < 13 := by
  intro r hr
  obtain ⟨c, hc, e⟩ := List.mem_map.mp hr
  exact e ▸ (h.ok c hc).1

theorem IsHand.isValid (h : IsHand n cs) (hn : 2 ≤ n ∧ n ≤ 7) : isValid (words cs) = true :=
  isValid_cards cs (h.len ▸ hn) h.ok h.nodup

end Spec

namespace Lemmas
open CK Spec

theorem sub_hand {n k : Nat} {cs g : List Card} (h : IsHand n cs) (hg : g ∈ combos k cs) : IsHand k g := by
  obtain ⟨hsub, hlen⟩ := (mem_combos k cs g).mp hg
  exact hlen ▸ h.sublist hsub

theorem hand5_cases {cs : List Card} (h : IsHand 5 cs) : ∃ c1 c2 c3 c4 c5, cs = [c1, c2, c3, c4, c5] := by
  match cs, h.len with
  | [c1, c2, c3, c4, c5], _ => exact ⟨c1, c2, c3, c4, c5, rfl⟩

/-- a valid list of words is the word list of distinct real cards -/
theorem valid_is_hand (ws : List Nat) (hm : ∀ w ∈ ws, w ∈ deckWords) (hnd : ws.Nodup) :
    ∃ cs, IsHand ws.length cs ∧ words cs = ws := by
  have hw : words (ws.map cardOfWord) = ws := by
    rw [words, List.map_map]
    exact (List.map_congr_left fun w hw => (cardOfWord_deck w (hm w hw)).2).trans (List.map_id ws)
  refine ⟨ws.map cardOfWord, ⟨by simp, ?_, ?_⟩, hw⟩
  · exact List.Pairwise.of_map Card.word (fun a b hne e => hne (e ▸ rfl)) (hw.symm ▸ hnd : (words _).Nodup)
  · intro c hc
    obtain ⟨w, hw, e⟩ := List.mem_map.mp hc
    exact e ▸ (cardOfWord_deck w (hm w hw)).1

end Lemmas
