import CkcVerif.Spec.Key
/-!
# Sweeps: a `Bool` checker evaluated by the kernel, opened at one point

Finite facts are stated as `chk = true` for a closed `chk : Bool` and proved by `decide +kernel`.  (A five-deep
`∀ r < 13, …` has no usable `Decidable` instance; nested `List.all` over `List.range` evaluates iteratively.)
-/
namespace Lemmas
open Spec

theorem all_range {n : Nat} {p : Nat → Bool} (h : (List.range n).all p = true) {i : Nat} (hi : i < n) :
    p i = true :=
  List.all_eq_true.mp h i (List.mem_range.mpr hi)

theorem _root_.Spec.Feasible.sorted {r1 r2 r3 r4 r5 : Nat} {f : Bool} (h : Feasible r1 r2 r3 r4 r5 f) :
    [r1, r2, r3, r4, r5].Pairwise (· ≥ ·) := by
  have := h.h2; have := h.h3; have := h.h4; have := h.h5
  simp only [List.pairwise_cons, List.mem_cons, List.not_mem_nil, or_false, forall_eq_or_imp, forall_eq]
  simp
  omega

theorem _root_.Spec.Feasible.lt {r1 r2 r3 r4 r5 : Nat} {f : Bool} (h : Feasible r1 r2 r3 r4 r5 f) :
    ∀ r ∈ [r1, r2, r3, r4, r5], r < 13 := by
  have := h.h1; have := h.h2; have := h.h3; have := h.h4; have := h.h5
  simp only [List.mem_cons, List.not_mem_nil, or_false, forall_eq_or_imp, forall_eq]
  omega

/-- `p` holds of every feasible class: every descending rank tuple below 13 that is not five of a kind, with the flush
    flag only where the ranks are distinct -/
def allClasses (p : Nat → Nat → Nat → Nat → Nat → Bool → Bool) : Bool :=
  (List.range 13).all fun r1 => (List.range (r1 + 1)).all fun r2 => (List.range (r2 + 1)).all fun r3 =>
  (List.range (r3 + 1)).all fun r4 => (List.range (r4 + 1)).all fun r5 =>
    (r1 == r5) || (p r1 r2 r3 r4 r5 false &&
      ((r1 == r2 || r2 == r3 || r3 == r4 || r4 == r5) || p r1 r2 r3 r4 r5 true))

theorem allClasses_spec {p : Nat → Nat → Nat → Nat → Nat → Bool → Bool} (h : allClasses p = true)
    {r1 r2 r3 r4 r5 : Nat} {f : Bool} (hf : Feasible r1 r2 r3 r4 r5 f) : p r1 r2 r3 r4 r5 f = true := by
  have := all_range (all_range (all_range (all_range (all_range h hf.h1) (Nat.lt_succ_of_le hf.h2))
    (Nat.lt_succ_of_le hf.h3)) (Nat.lt_succ_of_le hf.h4)) (Nat.lt_succ_of_le hf.h5)
  simp only [Bool.or_eq_true, Bool.and_eq_true, beq_iff_eq] at this
  rcases this with h0 | ⟨ha, hb⟩
  · exact absurd h0 hf.hne
  · cases f with
    | false => exact ha
    | true =>
      obtain ⟨n1, n2, n3, n4⟩ := hf.hf rfl
      rcases hb with hb | hb
      · omega
      · exact hb

end Lemmas
