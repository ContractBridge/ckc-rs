import CkcVerif.Spec.Names
import CkcVerif.Lemmas.Sweep
/-! The 309 descriptors and their 309 names are pairwise distinct (specification only) -/
namespace Lemmas
open Spec

/-- the closed-form index agrees with the readable listing -/
theorem descrIdx_allDescr : allDescr.length = 309 ∧ (List.range 309).all (fun i => descrIdx (allDescr.getD i (0, 0, 0)) == i) = true := by
  decide +kernel

theorem names_distinct : allDescr.Nodup ∧ (allDescr.map specName).Nodup ∧ allDescr.length = 309 := by
  refine ⟨?_, by decide +kernel, descrIdx_allDescr.1⟩
  -- `descrIdx` inverts the listing, so no descriptor occurs twice (a pairwise kernel check costs 64M heartbeats)
  have key : ∀ k (hk : k < allDescr.length), descrIdx allDescr[k] = k := fun k hk => by
    have := all_range descrIdx_allDescr.2 (descrIdx_allDescr.1 ▸ hk)
    rwa [List.getD_eq_getElem?_getD, List.getElem?_eq_getElem hk, Option.getD_some, beq_iff_eq] at this
  rw [List.Nodup, List.pairwise_iff_getElem]
  intro i j hi hj hij e
  have := key i hi
  rw [e, key j hj] at this
  omega

end Lemmas
