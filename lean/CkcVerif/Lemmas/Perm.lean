import CkcVerif.Lemmas.Bridge
import CkcVerif.Lemmas.Sort
/-! Permutation invariance: of the abstract evaluator and the specification (lists of ranks) and of the five-card
    evaluator itself (any five words) -/
namespace Lemmas
open CK Spec

/-- folding a commutative, associative operation over the `g`-images does not depend on the order -/
theorem foldl_perm {α : Type} {op : Nat → Nat → Nat} (ha : ∀ a b c, op (op a b) c = op a (op b c))
    (hc : ∀ a b, op a b = op b a) (g : α → Nat) {l l' : List α} (p : l.Perm l') (init : Nat) :
    l.foldl (fun a x => op a (g x)) init = l'.foldl (fun a x => op a (g x)) init :=
  p.foldl_eq' (fun x _ y _ z => by rw [ha, ha, hc (g x)]) init

def orMaskL (rs : List Nat) : Nat := rs.foldl (fun a r => a ||| (1 <<< r)) 0
def prodL (rs : List Nat) : Nat := rs.foldl (fun a r => a * prime r) 1
def evalAbsL (rs : List Nat) (f : Bool) : Option Nat := evalCore packed (orMaskL rs) (prodL rs) f

theorem orMask5_eq_L (r1 r2 r3 r4 r5 : Nat) : orMask5 r1 r2 r3 r4 r5 = orMaskL [r1, r2, r3, r4, r5] := by
  simp [orMask5, orMaskL, List.foldl]

theorem evalAbs_eq_L (r1 r2 r3 r4 r5 : Nat) (f : Bool) :
    evalAbs r1 r2 r3 r4 r5 f = evalAbsL [r1, r2, r3, r4, r5] f := by
  simp [evalAbs, evalAbsL, orMaskL, prodL, orMask5, prod5, List.foldl]

theorem orMaskL_perm {l l' : List Nat} (p : l.Perm l') : orMaskL l = orMaskL l' :=
  foldl_perm Nat.or_assoc Nat.or_comm (1 <<< ·) p 0

theorem prodL_perm {l l' : List Nat} (p : l.Perm l') : prodL l = prodL l' :=
  foldl_perm Nat.mul_assoc Nat.mul_comm prime p 1

theorem evalAbsL_perm {l l' : List Nat} (p : l.Perm l') (f : Bool) : evalAbsL l f = evalAbsL l' f := by
  simp [evalAbsL, orMaskL_perm p, prodL_perm p]

/-- the specification depends on the ranks only through their multiset -/
theorem strength_perm {l l' : List Nat} (p : l.Perm l') (f : Bool) : strength l f = strength l' f := by
  have hc : counts l = counts l' := by
    unfold counts
    congr 1
    apply List.map_congr_left
    intro r _
    rw [p.count_eq]
  unfold strength groups
  rw [hc]

theorem len5 {α : Type} {ws : List α} (h : ws.length = 5) : ∃ a b c d e, ws = [a, b, c, d, e] := by
  match ws, h with
  | [a, b, c, d, e], _ => exact ⟨a, b, c, d, e, rfl⟩

/-- every 5-list of ranks has a descending rearrangement -/
theorem exists_sorted5 (l : List Nat) (hl : l.length = 5) :
    ∃ q1 q2 q3 q4 q5, l.Perm [q1, q2, q3, q4, q5] ∧ q2 ≤ q1 ∧ q3 ≤ q2 ∧ q4 ≤ q3 ∧ q5 ≤ q4 := by
  obtain ⟨q1, q2, q3, q4, q5, hq⟩ := len5 ((sortDesc_length l).trans hl)
  have hs := hq ▸ sortDesc_sorted l
  simp only [List.pairwise_cons, List.mem_cons, forall_eq_or_imp] at hs
  exact ⟨q1, q2, q3, q4, q5, hq ▸ (sortDesc_perm l).symm, hs.1.1, hs.2.1.1, hs.2.2.1.1, hs.2.2.2.1.1⟩

/-! ### the three quantities of the evaluator as folds over the slots -/

theorem orBits_fold {ws : List Nat} (h : ws.length = 5) : orBits ws = ws.foldl (· ||| ·) 0 := by
  obtain ⟨a, b, c, d, e, rfl⟩ := len5 h
  simp [orBits, List.foldl]

theorem mulPrimes_fold {ws : List Nat} (h : ws.length = 5) :
    multiplyPrimes ws = ws.foldl (fun acc w => acc * getRankPrime w) 1 := by
  obtain ⟨a, b, c, d, e, rfl⟩ := len5 h
  simp [multiplyPrimes, List.foldl]

theorem andSuit_fold {ws : List Nat} (h : ws.length = 5) :
    andBits ws &&& Gen.suitFilter = ws.foldl (fun acc w => acc &&& w) Gen.suitFilter := by
  obtain ⟨a, b, c, d, e, rfl⟩ := len5 h
  simp only [andBits, List.foldl]
  ac_rfl

/-- the five-card value does not depend on the slot order — for ANY five words -/
theorem handRankValue5_perm (T : Tables) {ws ws' : List Nat} (h : ws.length = 5) (p : ws.Perm ws') :
    handRankValue5 T ws = handRankValue5 T ws' := by
  have h' := p.length_eq ▸ h
  have e1 : orBits ws = orBits ws' := by
    rw [orBits_fold h, orBits_fold h']; exact foldl_perm Nat.or_assoc Nat.or_comm id p 0
  have e2 : multiplyPrimes ws = multiplyPrimes ws' := by
    rw [mulPrimes_fold h, mulPrimes_fold h']; exact foldl_perm Nat.mul_assoc Nat.mul_comm getRankPrime p 1
  have e3 : andBits ws &&& Gen.suitFilter = andBits ws' &&& Gen.suitFilter := by
    rw [andSuit_fold h, andSuit_fold h']; exact foldl_perm Nat.and_assoc Nat.and_comm id p _
  unfold handRankValue5 orRankBits isFlush
  rw [e1, e2, e3]

end Lemmas
