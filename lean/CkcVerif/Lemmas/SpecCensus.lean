import CkcVerif.Lemmas.RunLength
import CkcVerif.Lemmas.Sweep
/-!
# Census of the specification (validation of `Spec.strength` against textbook poker combinatorics)

Independent of the crate.  For every feasible class the number of five-card hands (sets of distinct
cards) that realise it is computed from its rank multiplicities; the totals per category must be the
well-known ones (40 straight flushes, 624 four of a kind, 3,744 full houses, 5,108 flushes, 10,200
straights, 54,912 three of a kind, 123,552 two pair, 1,098,240 pairs, 1,302,540 high card), the
number of classes per category 10 / 156 / 156 / 1,277 / 10 / 858 / 858 / 2,860 / 1,277, and everything
must add up to C(52,5) = 2,598,960 hands in 7,462 classes.
-/
namespace Lemmas
open Spec

def choose4 : Nat → Nat
  | 0 => 1 | 1 => 4 | 2 => 6 | 3 => 4 | 4 => 1 | _ => 0

/-- number of five-card hands with the descending rank tuple `r1..r5`: flush hands (all one suit,
    ranks distinct) when `f`, otherwise all suit assignments minus the flush ones -/
def handCount (r1 r2 r3 r4 r5 : Nat) (f : Bool) : Nat :=
  let rs := [r1, r2, r3, r4, r5]
  let distinct := r1 != r2 && r2 != r3 && r3 != r4 && r4 != r5
  if f then 4
  else
    let ways := ((List.range 13).map fun r => choose4 (rs.count r)).foldl (· * ·) 1
    if distinct then ways - 4 else ways

/-- all feasible classes (descending rank tuple, flush flag), by nested enumeration -/
def specClasses : List (Nat × Nat × Nat × Nat × Nat × Bool) :=
  (List.range 13).flatMap fun r1 => (List.range (r1 + 1)).flatMap fun r2 => (List.range (r2 + 1)).flatMap fun r3 =>
  (List.range (r3 + 1)).flatMap fun r4 => (List.range (r4 + 1)).flatMap fun r5 =>
    if r1 == r5 then [] else
      (r1, r2, r3, r4, r5, false) ::
        (if r1 == r2 || r2 == r3 || r3 == r4 || r4 == r5 then [] else [(r1, r2, r3, r4, r5, true)])

/-- class count in lane `cat`, hand count in lane `9 + cat` (64-bit lanes of one number) -/
def censusP : Nat :=
  specClasses.foldl (fun acc c =>
    let cat := key c.1 c.2.1 c.2.2.1 c.2.2.2.1 c.2.2.2.2.1 c.2.2.2.2.2 / 13 ^ 5
    acc + (1 <<< (64 * cat)) + (handCount c.1 c.2.1 c.2.2.1 c.2.2.2.1 c.2.2.2.2.1 c.2.2.2.2.2 <<< (64 * (9 + cat)))) 0

def lane (k : Nat) : Nat := (censusP >>> (64 * k)) % 2 ^ 64

/-- (classes, hands) per category 0..8 -/
def census : List (Nat × Nat) := (List.range 9).map fun c => (lane c, lane (9 + c))

/-- the suit choices counted over the runs of the tuple instead of over the thirteen ranks (an absent rank contributes
    `choose4 0 = 1`) -/
theorem ways_eq {rs : List Nat} (hs : rs.Pairwise (· ≥ ·)) (h : ∀ r ∈ rs, r < 13) :
    ((List.range 13).map fun r => choose4 (rs.count r)).foldl (· * ·) 1 =
      ((rle rs).map fun p => choose4 p.2).foldl (· * ·) 1 := by
  have drop : ∀ ds : List Nat, (((ds.map fun r => (r, rs.count r)).filter fun p => p.2 != 0).map fun p => choose4 p.2).prod =
      (ds.map fun r => choose4 (rs.count r)).prod := fun ds => by
    induction ds with
    | nil => rfl
    | cons d ds ih =>
      rw [List.map_cons, List.filter_cons]
      by_cases h0 : rs.count d = 0
      · rw [if_neg (by simp [h0]), ih, List.map_cons, List.prod_cons, h0, show choose4 0 = 1 from rfl, Nat.one_mul]
      · rw [if_pos (by simp [h0]), List.map_cons, List.prod_cons, ih, List.map_cons, List.prod_cons]
  rw [← counts_eq_rle hs h, ← List.prod_eq_foldl, ← List.prod_eq_foldl, counts, drop,
    show List.range 13 = [12, 11, 10, 9, 8, 7, 6, 5, 4, 3, 2, 1, 0].reverse from rfl, List.map_reverse, List.prod_reverse]

/-- `handCount` with the suit choices counted over the runs -/
def handCountR (r1 r2 r3 r4 r5 : Nat) (f : Bool) : Nat :=
  let distinct := r1 != r2 && r2 != r3 && r3 != r4 && r4 != r5
  if f then 4
  else
    let ways := ((rle [r1, r2, r3, r4, r5]).map fun p => choose4 p.2).foldl (· * ·) 1
    if distinct then ways - 4 else ways

theorem mem_specClasses {c : Nat × Nat × Nat × Nat × Nat × Bool} (h : c ∈ specClasses) :
    [c.1, c.2.1, c.2.2.1, c.2.2.2.1, c.2.2.2.2.1].Pairwise (· ≥ ·) ∧
      ∀ r ∈ [c.1, c.2.1, c.2.2.1, c.2.2.2.1, c.2.2.2.2.1], r < 13 := by
  simp only [specClasses, List.mem_flatMap, List.mem_range] at h
  obtain ⟨r1, h1, r2, h2, r3, h3, r4, h4, r5, h5, hc⟩ := h
  have : c.1 = r1 ∧ c.2.1 = r2 ∧ c.2.2.1 = r3 ∧ c.2.2.2.1 = r4 ∧ c.2.2.2.2.1 = r5 := by
    split at hc
    · cases hc
    · rcases List.mem_cons.mp hc with rfl | hc
      · simp
      · split at hc
        · cases hc
        · rw [List.mem_singleton.mp hc]; simp
  obtain ⟨e1, e2, e3, e4, e5⟩ := this
  rw [e1, e2, e3, e4, e5]
  constructor
  · simp; omega
  · simp; omega

/-- `censusP` evaluated with `handCountR`: three times cheaper for the kernel -/
theorem censusP_eq : censusP =
    specClasses.foldl (fun acc c =>
      let cat := key c.1 c.2.1 c.2.2.1 c.2.2.2.1 c.2.2.2.2.1 c.2.2.2.2.2 / 13 ^ 5
      acc + (1 <<< (64 * cat)) + (handCountR c.1 c.2.1 c.2.2.1 c.2.2.2.1 c.2.2.2.2.1 c.2.2.2.2.2 <<< (64 * (9 + cat)))) 0 := by
  have hh : ∀ c ∈ specClasses, handCount c.1 c.2.1 c.2.2.1 c.2.2.2.1 c.2.2.2.2.1 c.2.2.2.2.2 =
      handCountR c.1 c.2.1 c.2.2.1 c.2.2.2.1 c.2.2.2.2.1 c.2.2.2.2.2 := fun c hc => by
    rw [handCount, handCountR, ways_eq (mem_specClasses hc).1 (mem_specClasses hc).2]
  have := List.foldl_map (f := fun c : Nat × Nat × Nat × Nat × Nat × Bool =>
      (key c.1 c.2.1 c.2.2.1 c.2.2.2.1 c.2.2.2.2.1 c.2.2.2.2.2 / 13 ^ 5,
        handCount c.1 c.2.1 c.2.2.1 c.2.2.2.1 c.2.2.2.2.1 c.2.2.2.2.2))
    (g := fun acc p => acc + (1 <<< (64 * p.1)) + (p.2 <<< (64 * (9 + p.1)))) (l := specClasses) (init := 0)
  rw [censusP, ← this, List.map_congr_left fun c hc => by rw [hh c hc], List.foldl_map]

/-- the specification reproduces the textbook census: classes and hands per category (high card … straight
    flush), 7,462 classes and C(52,5) = 2,598,960 hands in all -/
theorem census_ok : census =
    [(1277, 1302540), (2860, 1098240), (858, 123552), (858, 54912), (10, 10200), (1277, 5108),
     (156, 3744), (156, 624), (10, 40)] ∧
    (census.map (·.1)).foldl (· + ·) 0 = 7462 ∧ (census.map (·.2)).foldl (· + ·) 0 = 2598960 := by
  simp only [census, lane, censusP_eq]
  decide +kernel

end Lemmas
