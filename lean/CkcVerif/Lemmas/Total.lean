import CkcVerif.Lemmas.Best
import CkcVerif.Lemmas.Find
import CkcVerif.Lemmas.Pop
import CkcVerif.Lemmas.KernZ
import CkcVerif.Lemmas.Perm
/-! Totality of ranking on card-or-blank hands, and the value of a five with a blank -/
namespace Lemmas
open CK Spec

/-- a slot holds a real card word or the blank card -/
def CardOrBlank (w : Nat) : Prop := w = 0 ∨ w ∈ deckWords

theorem slot_field : ∀ w ∈ 0 :: deckWords, w >>> 16 < 8192 ∧ pc 13 (w >>> 16) ≤ 1 := by decide

theorem slot_field' {w : Nat} (h : CardOrBlank w) : w >>> 16 < 8192 ∧ pc 13 (w >>> 16) ≤ 1 :=
  slot_field w (h.elim (· ▸ List.mem_cons_self) (List.mem_cons_of_mem _))

theorem or5_lt {a b c d e : Nat} (ha : a < 8192) (hb : b < 8192) (hc : c < 8192) (hd : d < 8192) (he : e < 8192) :
    a ||| b ||| c ||| d ||| e < 8192 :=
  Nat.or_lt_two_pow (n := 13) (Nat.or_lt_two_pow (Nat.or_lt_two_pow (Nat.or_lt_two_pow ha hb) hc) hd) he

theorem pc_or5 (n a b c d e : Nat) :
    pc n (a ||| b ||| c ||| d ||| e) ≤ pc n a + pc n b + pc n c + pc n d + pc n e := by
  have h1 := pc_or_le n (a ||| b ||| c ||| d) e
  have h2 := pc_or_le n (a ||| b ||| c) d
  have h3 := pc_or_le n (a ||| b) c
  have h4 := pc_or_le n a b
  omega

/-- the OR-ed rank index of five card-or-blank slots addresses both 7,937-cell tables -/
theorem orRankBits_bound {a b c d e : Nat} (ha : CardOrBlank a) (hb : CardOrBlank b) (hc : CardOrBlank c)
    (hd : CardOrBlank d) (he : CardOrBlank e) :
    orRankBits [a, b, c, d, e] ≤ 7936 ∧
    pc 13 (orRankBits [a, b, c, d, e]) ≤
      pc 13 (a >>> 16) + pc 13 (b >>> 16) + pc 13 (c >>> 16) + pc 13 (d >>> 16) + pc 13 (e >>> 16) := by
  have e1 : orRankBits [a, b, c, d, e] = (a >>> 16) ||| (b >>> 16) ||| (c >>> 16) ||| (d >>> 16) ||| (e >>> 16) := by
    simp only [orRankBits, orBits, eval_consts.1, or_shift]
  rw [e1]
  have fa := slot_field' ha; have fb := slot_field' hb; have fc := slot_field' hc
  have fd := slot_field' hd; have fe := slot_field' he
  have hp := pc_or5 13 (a >>> 16) (b >>> 16) (c >>> 16) (d >>> 16) (e >>> 16)
  exact ⟨mask_bound _ (or5_lt fa.1 fb.1 fc.1 fd.1 fe.1) (by omega), hp⟩

theorem unique_eq {i : Nat} (hi : i ≤ 7936) : unique packed i = some (get 16 Gen.unique5P i) := by
  have : ¬ i > Gen.possibleCombinations := by
    have : Gen.possibleCombinations = 7937 := by decide
    omega
  rw [unique, if_neg this, unique5_some i (by omega)]

theorem evalCore_total (i key : Nat) (flush : Bool) (hi : i ≤ 7936) : ∃ v, evalCore packed i key flush = some v := by
  unfold evalCore
  cases flush with
  | true => exact flushes_some i (by omega)
  | false =>
    simp only [Bool.false_eq_true, if_false, unique_eq hi]
    cases get 16 Gen.unique5P i with
    | zero => exact notUniqueKey_total key
    | succ u => exact ⟨_, rfl⟩

/-- ranking five card-or-blank slots (any repetition) never panics -/
theorem five_total {a b c d e : Nat} (ha : CardOrBlank a) (hb : CardOrBlank b) (hc : CardOrBlank c)
    (hd : CardOrBlank d) (he : CardOrBlank e) : ∃ v, handRankValue5 packed [a, b, c, d, e] = some v :=
  evalCore_total _ _ _ (orRankBits_bound ha hb hc hd he).1

theorem five_total_list {ws : List Nat} (hl : ws.length = 5) (h : ∀ w ∈ ws, CardOrBlank w) :
    ∃ v, handRankValue5 packed ws = some v := by
  obtain ⟨a, b, c, d, e, rfl⟩ := len5 hl
  exact five_total (h a (by simp)) (h b (by simp)) (h c (by simp)) (h d (by simp)) (h e (by simp))

theorem notUniqueKey_zero : notUniqueKey packed 0 = some 0 := by decide +kernel

/-- a five-slot hand holding a blank gets value 0: by symmetry the blank is in the first slot; then there is no
    flush, the prime product is 0 and at most four rank bits are set -/
theorem five_blank {ws : List Nat} (hl : ws.length = 5) (h : ∀ w ∈ ws, CardOrBlank w) (h0 : 0 ∈ ws) :
    handRankValue5 packed ws = some 0 := by
  have p := List.perm_cons_erase h0
  rw [handRankValue5_perm packed hl p]
  obtain ⟨z, b, c, d, e, he⟩ := len5 (p.length_eq ▸ hl)
  obtain rfl : z = 0 := (List.cons.inj he).1.symm
  rw [he] at p ⊢
  have hm : ∀ w ∈ [0, b, c, d, e], CardOrBlank w := fun w hw => h w (p.mem_iff.mpr hw)
  obtain ⟨hi, hp⟩ := orRankBits_bound (hm 0 (by simp)) (hm b (by simp)) (hm c (by simp)) (hm d (by simp))
    (hm e (by simp))
  have fb := (slot_field' (hm b (by simp))).2; have fc := (slot_field' (hm c (by simp))).2
  have fd := (slot_field' (hm d (by simp))).2; have fe := (slot_field' (hm e (by simp))).2
  have hpc : pc 13 (orRankBits [0, b, c, d, e]) ≠ 5 := by
    have : pc 13 (0 >>> 16) = 0 := by decide
    omega
  have hfl : isFlush [0, b, c, d, e] = false := by simp [isFlush, andBits]
  have hkey : multiplyPrimes [0, b, c, d, e] = 0 := by simp [multiplyPrimes, getRankPrime]
  rw [handRankValue5, evalCore, hfl, hkey, unique_eq hi, unique5_zero _ (by omega) hpc]
  exact notUniqueKey_zero

/-- slot-index rows of the published tables are five in-range indices -/
theorem perms_in_range : (∀ row ∈ Gen.perms6, row.length = 5 ∧ ∀ i ∈ row, i < 6) ∧
    (∀ row ∈ Gen.perms7, row.length = 5 ∧ ∀ i ∈ row, i < 7) := by decide

/-- the best-of loop over any table of in-range rows is total on card-or-blank slots -/
theorem sixseven_total (perms : List (List Nat)) (ws : List Nat) (hws : ∀ w ∈ ws, CardOrBlank w)
    (hp : ∀ row ∈ perms, row.length = 5 ∧ ∀ i ∈ row, i < ws.length) :
    (handRankValueAndHandN packed perms ws).isSome := by
  rw [handRankValueAndHandN_eq packed ws (fun c => (handRankValue5 packed c).getD 0) perms hp fun c hc => ?_]
  · rfl
  · obtain ⟨row, hr, rfl⟩ := List.mem_map.mp hc
    obtain ⟨v, hv⟩ := five_total_list (by rw [pickD, List.length_map, (hp row hr).1])
      fun w hw => hws w (pickD_mem (hp row hr).2 w hw)
    rw [hv]; rfl

end Lemmas
