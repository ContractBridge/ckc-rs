import CkcVerif.Lemmas.Best
import CkcVerif.Lemmas.HandValue
/-! Six and seven cards: the reported value and hand are those of a five-card sub-hand of least value; sub-hands of
    sub-hands -/
namespace Lemmas
open CK Spec

theorem perms_eq : Gen.perms6 = combos 5 (List.range 6) ∧ Gen.perms7 = combos 5 (List.range 7) := by decide

/-- value of a five-card hand of cards, as a number (0 if it panicked — it never does) -/
def value5D (ws : List Nat) : Nat := (handRankValue5 packed ws).getD 0

theorem value5D_hand {sub : List Card} (h : IsHand 5 sub) :
    handRankValue5 packed (words sub) = some (value5D (words sub)) ∧ 1 ≤ value5D (words sub) ∧
    value5D (words sub) ≤ 7462 := by
  obtain ⟨v, _, _, _, _, _, _, _, _, e, a1, a2, _⟩ := hand_value h
  unfold value5D
  rw [e]
  exact ⟨rfl, a1, a2⟩

/-- the trait ranking of a 6- or 7-card hand is the loop over the matching published table -/
theorem handRankValue_n {n : Nat} (hn : n = 6 ∨ n = 7) {cs : List Card} (h : IsHand n cs) :
    handRankValueAndHand packed (words cs) =
      handRankValueAndHandN packed (if n = 6 then Gen.perms6 else Gen.perms7) (words cs) := by
  unfold handRankValueAndHand
  rw [h.length_words]
  rcases hn with rfl | rfl <;> rfl

/-- ranking six or seven distinct real cards: some 5-card sub-hand attains the value, and no 5-card
    sub-hand has a smaller one -/
theorem rank_n {n : Nat} (hn : n = 6 ∨ n = 7) {cs : List Card} (h : IsHand n cs) :
    ∃ sub, sub ∈ combos 5 cs ∧
      handRankValueAndHand packed (words cs) = some (value5D (words sub), sortDesc (words sub)) ∧
      ∀ sub' ∈ combos 5 cs, value5D (words sub) ≤ value5D (words sub') := by
  have hp : (if n = 6 then Gen.perms6 else Gen.perms7) = combos 5 (List.range (words cs).length) := by
    rw [h.length_words]; rcases hn with rfl | rfl <;> simp [perms_eq]
  have hc : (combos 5 (List.range (words cs).length)).map (pickD (words cs)) = (combos 5 cs).map words :=
    (candidates (words cs)).trans (combos_map Card.word 5 cs)
  rw [handRankValue_n hn h, hp]
  obtain ⟨b, hb, hv, hmin⟩ := bestOf_spec packed (words cs) value5D _ (fun _ => combos_range)
    (fun c hm => by
      obtain ⟨sub, hs, rfl⟩ := List.mem_map.mp (hc ▸ hm)
      have := value5D_hand (sub_hand h hs)
      exact ⟨this.1, by omega⟩)
    (by rw [← hp]; rcases hn with rfl | rfl <;> decide)
  obtain ⟨sub, hs, rfl⟩ := List.mem_map.mp (hc ▸ hb)
  exact ⟨sub, hs, hv, fun s hs' => hmin _ (hc ▸ List.mem_map_of_mem hs')⟩

/-- the value of 5, 6 or 7 distinct real cards, as a number -/
def valueD (cs : List Card) : Nat := (handRankValue packed (words cs)).getD 0

theorem valueD_eq {cs : List Card} {v : Nat} (e : handRankValue packed (words cs) = some v) : valueD cs = v := by
  rw [valueD, e]; rfl

theorem rank_min {n : Nat} (hn : n = 6 ∨ n = 7) {cs : List Card} (h : IsHand n cs) :
    (∃ sub ∈ combos 5 cs, valueD cs = value5D (words sub)) ∧ ∀ sub ∈ combos 5 cs, valueD cs ≤ value5D (words sub) := by
  obtain ⟨best, hb, hv, hmin⟩ := rank_n hn h
  have : valueD cs = value5D (words best) := valueD_eq (by rw [handRankValue, hv]; rfl)
  exact ⟨⟨best, hb, this⟩, fun s hs => this ▸ hmin s hs⟩

/-- two hands of six or seven cards whose five-card sub-hands have the same values, each way, have the same value -/
theorem value_congr {n : Nat} (hn : n = 6 ∨ n = 7) {cs cs' : List Card} (h : IsHand n cs) (h' : IsHand n cs')
    (h12 : ∀ s ∈ combos 5 cs, ∃ s' ∈ combos 5 cs', handRankValue5 packed (words s') = handRankValue5 packed (words s))
    (h21 : ∀ s' ∈ combos 5 cs', ∃ s ∈ combos 5 cs, handRankValue5 packed (words s) = handRankValue5 packed (words s')) :
    handRankValue packed (words cs) = handRankValue packed (words cs') := by
  obtain ⟨b, hb, e, m⟩ := rank_n hn h
  obtain ⟨b', hb', e', m'⟩ := rank_n hn h'
  obtain ⟨s', hs', es'⟩ := h12 b hb
  obtain ⟨s, hs, es⟩ := h21 b' hb'
  have := m s hs
  have := m' s' hs'
  have : value5D (words b) = value5D (words b') := by
    simp only [value5D, es', es] at *; omega
  rw [handRankValue, handRankValue, e, e', this]; rfl

theorem value5 {cs : List Card} (h : IsHand 5 cs) : valueD cs = value5D (words cs) := by
  rw [valueD, handRankValue_five h.length_words]; rfl

theorem sublist_interp {α : Type} {s l : List α} (h : s.Sublist l) (hlt : s.length < l.length) :
    ∃ g, s.Sublist g ∧ g.Sublist l ∧ g.length = s.length + 1 := by
  induction h with
  | slnil => simp at hlt
  | @cons s' l' a h' _ =>
    exact ⟨a :: s', List.Sublist.cons a (List.Sublist.refl _), List.Sublist.cons_cons a h', by simp⟩
  | @cons_cons s' l' a h' ih =>
    have : s'.length < l'.length := by simpa using hlt
    obtain ⟨g, h1, h2, h3⟩ := ih this
    exact ⟨a :: g, List.Sublist.cons_cons a h1, List.Sublist.cons_cons a h2, by simp [h3]⟩

theorem foldl_max_ge (l : List Nat) (init : Nat) : init ≤ l.foldl max init ∧ ∀ x ∈ l, x ≤ l.foldl max init := by
  induction l generalizing init with
  | nil => simp
  | cons a as ih =>
    rw [List.foldl_cons]
    obtain ⟨h1, h2⟩ := ih (max init a)
    refine ⟨by omega, ?_⟩
    intro x hx
    rcases List.mem_cons.mp hx with rfl | hx
    · omega
    · exact h2 x hx

theorem foldl_max_eq (l : List Nat) (m : Nat) (hm : m ∈ l) (hall : ∀ x ∈ l, x ≤ m) : l.foldl max 0 = m := by
  have h1 := (foldl_max_ge l 0).2 m hm
  have h2 : l.foldl max 0 ≤ m := by
    suffices ∀ init, init ≤ m → l.foldl max init ≤ m from this 0 (Nat.zero_le _)
    clear h1 hm
    induction l with
    | nil => intro init h; simpa using h
    | cons a as ih =>
      intro init h
      rw [List.foldl_cons]
      apply ih (fun x hx => hall x (List.mem_cons_of_mem _ hx))
      have := hall a List.mem_cons_self
      omega
  omega

end Lemmas
