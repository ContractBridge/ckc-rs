import CkcVerif.Model.SixSeven
/-! What the ranking entry points compute: the trait methods by slot count, the validated forms by validity -/
namespace Lemmas
open CK

variable {T : Tables} {ws : List Nat}

theorem handRankValueAndHand5_eq {v : Nat} (h : handRankValue5 T ws = some v) :
    handRankValueAndHand5 T ws = some (v, ws) := by
  unfold handRankValueAndHand5; rw [h]

theorem handRankValue_five (h : ws.length = 5) : handRankValue T ws = handRankValue5 T ws := by
  unfold handRankValue handRankValueAndHand handRankValueAndHand5
  rw [h]
  cases handRankValue5 T ws <;> rfl

theorem handRankValue_six (h : ws.length = 6) : handRankValue T ws = (handRankValueAndHand6 T ws).map (·.1) := by
  unfold handRankValue handRankValueAndHand; rw [h]; rfl

theorem handRankValue_seven (h : ws.length = 7) : handRankValue T ws = (handRankValueAndHand7 T ws).map (·.1) := by
  unfold handRankValue handRankValueAndHand; rw [h]; rfl

theorem noHandRankValue : Gen.noHandRankValue = 0 := by decide

theorem handRankValueValidated_valid (h : isValid ws = true) : handRankValueValidated T ws = handRankValue T ws := by
  simp [handRankValueValidated, h]

theorem handRankValueValidated_invalid (h : isValid ws = false) : handRankValueValidated T ws = some 0 := by
  simp [handRankValueValidated, h, noHandRankValue]

/-- `Five::hand_rank_value_validated` and the free function `evaluate::five_cards` are the trait's validated ranking -/
theorem handRankValueValidated5_eq (h : ws.length = 5) :
    handRankValueValidated5 T ws = handRankValueValidated T ws ∧ fiveCards T ws = handRankValueValidated T ws := by
  unfold fiveCards handRankValueValidated5 handRankValueValidated
  rw [handRankValue_five h]
  exact ⟨rfl, rfl⟩

/-- validation never adds a panic -/
theorem handRankValueValidated_isSome (h : (handRankValue T ws).isSome) : (handRankValueValidated T ws).isSome := by
  unfold handRankValueValidated; split <;> simp [h]

end Lemmas
