-- root: every module of the development (built by `./check setup`)
import CkcVerif.Generated.Cards
import CkcVerif.Generated.Chars
import CkcVerif.Generated.Consts
import CkcVerif.Generated.Enums
import CkcVerif.Generated.Graphs
import CkcVerif.Generated.Presets
import CkcVerif.Generated.Tables
import CkcVerif.Lemmas.Abs
import CkcVerif.Lemmas.Best
import CkcVerif.Lemmas.Bits
import CkcVerif.Lemmas.Bridge
import CkcVerif.Lemmas.CardFacts
import CkcVerif.Lemmas.Combos
import CkcVerif.Lemmas.Entry
import CkcVerif.Lemmas.Find
import CkcVerif.Lemmas.FindCorrect
import CkcVerif.Lemmas.HandValue
import CkcVerif.Lemmas.Hands
import CkcVerif.Lemmas.KernA
import CkcVerif.Lemmas.KernB
import CkcVerif.Lemmas.KernCat
import CkcVerif.Lemmas.KernNames
import CkcVerif.Lemmas.KernS
import CkcVerif.Lemmas.KernW
import CkcVerif.Lemmas.KernZ
import CkcVerif.Lemmas.KeyInv
import CkcVerif.Lemmas.Lookup
import CkcVerif.Lemmas.Masks
import CkcVerif.Lemmas.NamesDistinct
import CkcVerif.Lemmas.Order
import CkcVerif.Lemmas.Peel
import CkcVerif.Lemmas.Perm
import CkcVerif.Lemmas.Pop
import CkcVerif.Lemmas.Ranking
import CkcVerif.Lemmas.RunLength
import CkcVerif.Lemmas.Sort
import CkcVerif.Lemmas.Sweep
import CkcVerif.Lemmas.SpecCensus
import CkcVerif.Lemmas.SubHands
import CkcVerif.Lemmas.Tokens
import CkcVerif.Lemmas.Total
import CkcVerif.Lemmas.TwoBits
import CkcVerif.Lemmas.Valid
import CkcVerif.Lemmas.Witness
import CkcVerif.Model.Basic
import CkcVerif.Model.BitCard
import CkcVerif.Model.Bits
import CkcVerif.Model.Card
import CkcVerif.Model.Containers
import CkcVerif.Model.Fields
import CkcVerif.Model.Five
import CkcVerif.Model.Hand
import CkcVerif.Model.HandRank
import CkcVerif.Model.HandRankOps
import CkcVerif.Model.Legacy
import CkcVerif.Model.Parse
import CkcVerif.Model.Ranker
import CkcVerif.Model.SixSeven
import CkcVerif.Model.Sort
import CkcVerif.Model.Two
import CkcVerif.Props.C01
import CkcVerif.Props.C02
import CkcVerif.Props.C03
import CkcVerif.Props.C04
import CkcVerif.Props.C05
import CkcVerif.Props.C06
import CkcVerif.Props.C07
import CkcVerif.Props.C08
import CkcVerif.Props.C09
import CkcVerif.Props.C10
import CkcVerif.Props.C11
import CkcVerif.Props.C12
import CkcVerif.Props.C13
import CkcVerif.Props.C14
import CkcVerif.Props.C15
import CkcVerif.Props.C16
import CkcVerif.Props.C17
import CkcVerif.Props.C18
import CkcVerif.Props.C19
import CkcVerif.Props.C20
import CkcVerif.Spec.Chen
import CkcVerif.Spec.Combos
import CkcVerif.Spec.Hand
import CkcVerif.Spec.Key
import CkcVerif.Spec.Layout
import CkcVerif.Spec.Names
import CkcVerif.Spec.Poker
import CkcVerif.Spec.Straight
import CkcVerif.Spec.Symbols
